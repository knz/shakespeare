import ShkModel.Model.Spot
/-!
# Lemmas for C08: `detectLine` (the model of `detectSignals`) against the denotation `pointsOf`

One iteration of the loop is first written as a function of `sampleOf` (`detStep_eq`); what it does to the delta
state of a variable (`detStep_get`) and to its samples (`detStep_samples`) is read off that equation.  `addTo` and
the final sort move samples between and along events, so the samples of one variable are followed up to order
(`List.Perm`) and known exactly only at the end of the line, where there is at most one.
Beside that: what the points of each type of signal are (`pointsOf_event`, `_scalar`, `_delta` over the readings
`textOf`, `rawOf`), that every emitted sample is well-formed (`detectLine_wf`), and what a line that matches a
pattern looks like (`matchRec_some`).
The property theorems are in `ShkModel/Props/C08.lean`.
-/
namespace Shk.Spot
open Shk Shk.Aud

-- the test vectors of C08 compare lists of signal definitions by evaluation
deriving instance DecidableEq for SigDef

/-! ## Two facts about lists -/

theorem filter_key_of_nodup {α β : Type} [DecidableEq β] (f : α → β) (l : List α) (x : α) (hm : x ∈ l)
    (hn : (l.map f).Nodup) : l.filter (fun y => f y == f x) = [x] := by
  obtain ⟨s, t, rfl⟩ := List.append_of_mem hm
  rw [List.map_append, List.map_cons, List.nodup_append, List.nodup_cons] at hn
  have hs : s.filter (fun y => f y == f x) = [] := List.filter_eq_nil_iff.2 fun y hy he =>
    hn.2.2 _ (List.mem_map_of_mem hy) _ List.mem_cons_self (beq_iff_eq.1 he)
  have ht : t.filter (fun y => f y == f x) = [] := List.filter_eq_nil_iff.2 fun y hy he =>
    hn.2.1.1 (beq_iff_eq.1 he ▸ List.mem_map_of_mem hy)
  rw [List.filter_append, List.filter_cons, hs, ht, if_pos (beq_self_eq_true _)]
  rfl

theorem eq_of_perm_toList_map {α β : Type} {l : List β} {o : Option α} {f : α → β}
    (h : l.Perm (o.toList.map f)) : l = o.toList.map f := by
  cases o with
  | none => exact List.perm_nil.1 h
  | some x => exact List.perm_singleton.1 h

/-! ## The lines of one actor, of several actors -/

/-- all the calls of `detectSignals` for the lines of one actor, in order: the delta state is
threaded through, the emitted events are concatenated in emission order. -/
def detectAll (epoch : Rat) (sigs : List SigDef) (hasSink : String → Bool) (actor : String) :
    Lasts → List (List Char) → Lasts × List Emitted
  | lasts, [] => (lasts, [])
  | lasts, l :: ls =>
    ((detectAll epoch sigs hasSink actor (detectLine epoch sigs hasSink actor lasts l).1 ls).1,
     (detectLine epoch sigs hasSink actor lasts l).2 ++
       (detectAll epoch sigs hasSink actor (detectLine epoch sigs hasSink actor lasts l).1 ls).2)

/-- the lines of several actors of one role, interleaved in any way (`hasSink actor signal`) -/
def detectMulti (epoch : Rat) (sigs : List SigDef) (hasSink : String → String → Bool) :
    Lasts → List (String × List Char) → Lasts × List Emitted
  | lasts, [] => (lasts, [])
  | lasts, al :: als =>
    ((detectMulti epoch sigs hasSink (detectLine epoch sigs (hasSink al.1) al.1 lasts al.2).1 als).1,
     (detectLine epoch sigs (hasSink al.1) al.1 lasts al.2).2 ++
       (detectMulti epoch sigs hasSink (detectLine epoch sigs (hasSink al.1) al.1 lasts al.2).1 als).2)

/-- the lines of actor `a` among interleaved lines of several actors -/
def linesOf (a : String) (als : List (String × List Char)) : List (List Char) :=
  (als.filter fun al => al.1 == a).map (·.2)

theorem linesOf_cons (a : String) (al : String × List Char) (als : List (String × List Char)) :
    linesOf a (al :: als) = if al.1 = a then al.2 :: linesOf a als else linesOf a als := by
  simp only [linesOf, List.filter_cons, beq_iff_eq]
  split <;> rfl

theorem linesOf_map (a : String) (lines : List (List Char)) : linesOf a (lines.map (a, ·)) = lines := by
  induction lines with
  | nil => rfl
  | cons l ls ih => rw [List.map_cons, linesOf_cons, if_pos rfl, ih]

theorem detectAll_eq_multi (epoch : Rat) (sigs : List SigDef) (hasSink : String → Bool) (actor : String)
    (lasts : Lasts) (lines : List (List Char)) :
    detectAll epoch sigs hasSink actor lasts lines =
      detectMulti epoch sigs (fun _ => hasSink) lasts (lines.map (actor, ·)) := by
  induction lines generalizing lasts with
  | nil => rfl
  | cons l ls ih => rw [detectAll, List.map_cons, detectMulti, ih]

/-! ## The samples of one signal -/

/-- is this a sample of signal `name` of actor `actor`? -/
def isKey (actor name : String) (s : Sample) : Bool := s.v == (⟨actor, name⟩ : VarName)

/-- the samples of signal `name` of actor `actor` in a list of emitted events, flattened in
emission order, each with the time stamp of the event that carries it -/
def samplesOf (actor name : String) (evs : List Emitted) : List (Stamp × Sample) :=
  evs.flatMap fun e => (e.samples.filter (isKey actor name)).map fun s => (e.stamp, s)

/-- the sample that `detectSignals` must emit for a point of signal `sd` of `actor` -/
def Point.toSample (actor : String) (sd : SigDef) (p : Point) : Stamp × Sample :=
  (p.stamp, ⟨sd.typ, ⟨actor, sd.name⟩, .sc p.val⟩)

theorem isKey_iff (a n : String) (s : Sample) : isKey a n s = true ↔ s.v = ⟨a, n⟩ := by
  simp [isKey]

theorem samplesOf_nil (a n : String) : samplesOf a n [] = [] := rfl

theorem samplesOf_cons (a n : String) (e : Emitted) (evs : List Emitted) :
    samplesOf a n (e :: evs) =
      ((e.samples.filter (isKey a n)).map fun s => (e.stamp, s)) ++ samplesOf a n evs :=
  List.flatMap_cons

theorem samplesOf_append (a n : String) (e1 e2 : List Emitted) :
    samplesOf a n (e1 ++ e2) = samplesOf a n e1 ++ samplesOf a n e2 :=
  List.flatMap_append

theorem samplesOf_single (a n : String) (st : Stamp) (s : Sample) :
    samplesOf a n [⟨st, [s]⟩] = if s.v = ⟨a, n⟩ then [(st, s)] else [] := by
  by_cases h : s.v = ⟨a, n⟩ <;> simp [samplesOf, isKey, h]

/-! ## `sampleOf`, `pointsOf` and `lastAfter` -/

/-- the delta state (`last` argument of `pointsOf`) after a list of lines -/
def lastAfter (epoch : Rat) (sd : SigDef) : Rat → List (List Char) → Rat
  | last, [] => last
  | last, l :: ls => lastAfter epoch sd (sampleOf epoch sd last l).1 ls

section points
variable {epoch : Rat} {sd : SigDef} {last : Rat}

theorem sampleOf_some {line : List Char} {p : Point} (h : (sampleOf epoch sd last line).2 = some p) :
    (∃ v, matchSig epoch sd line = some (some p.stamp, v)) ∧ (Val.sc p.val).isNil = false := by
  rcases sd with ⟨name, tag, typ, ts, pos⟩
  revert h
  unfold sampleOf
  rcases matchSig epoch ⟨name, tag, typ, ts, pos⟩ line with _ | ⟨_ | st, v⟩
  · nofun
  · nofun
  · cases typ
    · rintro ⟨⟩; exact ⟨⟨v, rfl⟩, rfl⟩
    all_goals
      dsimp only
      cases parseFloat v
      · nofun
      · rintro ⟨⟩; exact ⟨⟨v, rfl⟩, rfl⟩

theorem sampleOf_fst {line : List Char} (h : sd.typ ≠ .delta ∨ (sampleOf epoch sd last line).2 = none) :
    (sampleOf epoch sd last line).1 = last := by
  rcases sd with ⟨name, tag, typ, ts, pos⟩
  revert h
  unfold sampleOf
  rcases matchSig epoch ⟨name, tag, typ, ts, pos⟩ line with _ | ⟨_ | st, v⟩
  · exact fun _ => rfl
  · exact fun _ => rfl
  · cases typ
    · exact fun _ => rfl
    · dsimp only; cases parseFloat v <;> exact fun _ => rfl
    · dsimp only
      cases parseFloat v
      · exact fun _ => rfl
      · exact fun h => nomatch h.resolve_left (· rfl)

theorem pointsOf_cons (l : List Char) (ls : List (List Char)) :
    pointsOf epoch sd last (l :: ls) =
      (sampleOf epoch sd last l).2.toList ++ pointsOf epoch sd (sampleOf epoch sd last l).1 ls := by
  rw [pointsOf]
  rcases sampleOf epoch sd last l with ⟨a, _ | p⟩ <;> rfl

theorem pointsOf_append (a b : List (List Char)) :
    pointsOf epoch sd last (a ++ b) =
      pointsOf epoch sd last a ++ pointsOf epoch sd (lastAfter epoch sd last a) b := by
  induction a generalizing last with
  | nil => rfl
  | cons l ls ih => simp only [List.cons_append, pointsOf_cons, lastAfter, ih, List.append_assoc]

theorem lastAfter_append (a b : List (List Char)) :
    lastAfter epoch sd last (a ++ b) = lastAfter epoch sd (lastAfter epoch sd last a) b := by
  induction a generalizing last with
  | nil => rfl
  | cons l ls ih => exact ih

theorem silent_line_removable {pre : List (List Char)} {l : List Char} (post : List (List Char))
    (h : sampleOf epoch sd (lastAfter epoch sd last pre) l = (lastAfter epoch sd last pre, none)) :
    pointsOf epoch sd last (pre ++ l :: post) = pointsOf epoch sd last (pre ++ post) ∧
    lastAfter epoch sd last (pre ++ l :: post) = lastAfter epoch sd last (pre ++ post) := by
  rw [pointsOf_append, pointsOf_append, lastAfter_append, lastAfter_append, pointsOf_cons, lastAfter, h]
  exact ⟨rfl, rfl⟩

end points

/-! ## The delta state -/

theorem Lasts.get_set (l : Lasts) (k k' : String × String) (v : Rat) :
    (l.set k v).get k' = if k = k' then v else l.get k' := by
  unfold Lasts.get Lasts.set
  rw [List.lookup_cons]
  by_cases h : k = k'
  · simp only [h, beq_self_eq_true, if_true, Option.getD_some]
  · have h' : (k' == k) = false := beq_eq_false_iff_ne.2 (Ne.symm h)
    simp only [h', if_neg h]
    congr 1
    induction l with
    | nil => rfl
    | cons x xs ih =>
      rw [List.filter_cons]
      split
      · rw [List.lookup_cons, List.lookup_cons, ih]
      · rename_i hx
        have hx : x.1 = k := by simpa using hx
        rw [ih, List.lookup_cons, hx, h']

/-! ## `addTo`: regroups, never drops or duplicates -/

def stamps (evs : List Emitted) : List Stamp := evs.map (·.stamp)

section addTo
variable (st : Stamp) (s : Option Sample)

theorem any_stamp (evs : List Emitted) : evs.any (·.stamp == st) = true ↔ st ∈ stamps evs := by
  rw [List.any_eq_true, stamps, List.mem_map]
  exact exists_congr fun e => and_congr_right fun _ => beq_iff_eq

theorem stamps_addTo (evs : List Emitted) :
    stamps (addTo st s evs) = if st ∈ stamps evs then stamps evs else stamps evs ++ [st] := by
  unfold addTo
  simp only [any_stamp]
  split
  · rw [stamps, List.map_map]
    exact List.map_congr_left fun e _ => by dsimp only [Function.comp]; split <;> rfl
  · simp [stamps]

theorem nodup_addTo {evs : List Emitted} (h : (stamps evs).Nodup) :
    (stamps (addTo st s evs)).Nodup := by
  rw [stamps_addTo]
  split
  · exact h
  · exact List.nodup_append.2 ⟨h, List.pairwise_singleton .., fun a ha b hb e =>
      ‹st ∉ stamps evs› (List.mem_singleton.1 hb ▸ e ▸ ha)⟩

theorem addTo_cons {x : Emitted} {xs : List Emitted} (hn : x.stamp ∉ stamps xs) :
    addTo st s (x :: xs) =
      if x.stamp = st then { x with samples := x.samples ++ s.toList } :: xs else x :: addTo st s xs := by
  by_cases h : x.stamp = st
  · have hx : ∀ e ∈ xs, ¬ (e.stamp == st) = true := fun e he he' =>
      hn (List.mem_map.2 ⟨e, he, (beq_iff_eq.1 he').trans h.symm⟩)
    rw [if_pos h, addTo, List.any_cons, List.map_cons, beq_iff_eq.2 h, Bool.true_or, if_pos rfl, if_pos rfl,
      List.map_congr_left fun e he => if_neg (hx e he), List.map_id']
  · rw [if_neg h, addTo, addTo, List.any_cons, List.map_cons, beq_eq_false_iff_ne.2 h, Bool.false_or,
      if_neg Bool.false_ne_true, apply_ite (List.cons x)]
    rfl

theorem samplesOf_addTo (a n : String) {evs : List Emitted} (hnd : (stamps evs).Nodup) :
    (samplesOf a n (addTo st s evs)).Perm (samplesOf a n evs ++ samplesOf a n [⟨st, s.toList⟩]) := by
  induction evs with
  | nil => exact .refl _
  | cons x xs ih =>
    rw [stamps, List.map_cons, List.nodup_cons] at hnd
    rw [addTo_cons st s hnd.1]
    split
    · rename_i h
      subst h
      simp only [samplesOf_cons, samplesOf_nil, List.filter_append, List.map_append, List.append_nil,
        List.append_assoc]
      exact .append_left _ List.perm_append_comm
    · rw [samplesOf_cons, samplesOf_cons, List.append_assoc]
      exact .append_left _ (ih hnd.2)

end addTo

/-! ## `insertEv`: reorders whole events -/

theorem insertEv_perm (e : Emitted) (evs : List Emitted) : (insertEv e evs).Perm (e :: evs) := by
  induction evs with
  | nil => exact .refl _
  | cons x xs ih =>
    rw [insertEv]
    split
    · exact (ih.cons x).trans (.swap e x xs)
    · exact .refl _

theorem sort_perm (evs : List Emitted) : (evs.foldr insertEv []).Perm evs := by
  induction evs with
  | nil => exact .refl _
  | cons x xs ih => exact (insertEv_perm x _).trans (ih.cons x)

theorem samplesOf_sort (a n : String) (evs : List Emitted) :
    (samplesOf a n (evs.foldr insertEv [])).Perm (samplesOf a n evs) :=
  .flatMap_right _ (sort_perm evs)

/-! ## One signal of the loop -/

/-- one iteration of the loop over the role's signals in `detectLine` -/
def detStep (epoch : Rat) (hasSink : String → Bool) (actor : String) (line : List Char)
    (acc : Lasts × List Emitted) (sd : SigDef) : Lasts × List Emitted :=
  if !hasSink sd.name then acc else
  match matchSig epoch sd line with
  | none => acc
  | some (none, _) => acc
  | some (some st, v) =>
    match sd.typ with
    | .event => (acc.1, addTo st (some ⟨.event, ⟨actor, sd.name⟩, .sc (.str (String.ofList v))⟩) acc.2)
    | .scalar =>
      match parseFloat v with
      | some x => (acc.1, addTo st (some ⟨.scalar, ⟨actor, sd.name⟩, .sc (.num x)⟩) acc.2)
      | none => acc
    | .delta =>
      match parseFloat v with
      | some x => (acc.1.set (actor, sd.name) x,
                   addTo st (some ⟨.delta, ⟨actor, sd.name⟩, .sc (.num (x - acc.1.get (actor, sd.name)))⟩) acc.2)
      | none => acc

theorem detectLine_eq (epoch : Rat) (sigs : List SigDef) (hasSink : String → Bool) (actor : String)
    (lasts : Lasts) (line : List Char) :
    detectLine epoch sigs hasSink actor lasts line =
      ((sigs.foldl (detStep epoch hasSink actor line) (lasts, [])).1,
       (sigs.foldl (detStep epoch hasSink actor line) (lasts, [])).2.foldr insertEv []) := by
  unfold detectLine detStep
  rfl

section loop
variable (epoch : Rat) (hasSink : String → Bool) (actor : String) (line : List Char)

theorem detStep_eq (acc : Lasts × List Emitted) (sd : SigDef) :
    detStep epoch hasSink actor line acc sd =
      if hasSink sd.name = true then
        match (sampleOf epoch sd (acc.1.get (actor, sd.name)) line).2 with
        | none => acc
        | some p =>
          (if sd.typ = .delta then
              acc.1.set (actor, sd.name) (sampleOf epoch sd (acc.1.get (actor, sd.name)) line).1
            else acc.1,
           addTo p.stamp (some (p.toSample actor sd).2) acc.2)
      else acc := by
  rcases sd with ⟨name, tag, typ, ts, pos⟩
  unfold detStep sampleOf
  cases hasSink name
  · rfl
  · rcases matchSig epoch ⟨name, tag, typ, ts, pos⟩ line with _ | ⟨_ | st, v⟩
    · rfl
    · rfl
    · cases typ
      · rfl
      all_goals
        dsimp only
        cases parseFloat v <;> rfl

theorem detStep_nodup (acc : Lasts × List Emitted) (sd : SigDef) (h : (stamps acc.2).Nodup) :
    (stamps (detStep epoch hasSink actor line acc sd).2).Nodup := by
  rw [detStep_eq]
  split
  · split
    · exact h
    · exact nodup_addTo _ _ h
  · exact h

theorem detStep_get (k : String × String) (acc : Lasts × List Emitted) (sd : SigDef) :
    (detStep epoch hasSink actor line acc sd).1.get k =
      if hasSink sd.name = true ∧ (actor, sd.name) = k then
        (sampleOf epoch sd (acc.1.get (actor, sd.name)) line).1 else acc.1.get k := by
  rw [detStep_eq]
  cases hasSink sd.name
  · rfl
  · simp only [true_and, if_true]
    -- only a delta signal that yields a point moves the state
    have keep : (sampleOf epoch sd (acc.1.get (actor, sd.name)) line).1 = acc.1.get (actor, sd.name) →
        acc.1.get k = if (actor, sd.name) = k then (sampleOf epoch sd (acc.1.get (actor, sd.name)) line).1
          else acc.1.get k := fun h => by
      split
      · rw [h, ‹(actor, sd.name) = k›]
      · rfl
    cases hp : (sampleOf epoch sd (acc.1.get (actor, sd.name)) line).2 with
    | none => exact keep (sampleOf_fst (.inr hp))
    | some p =>
      dsimp only
      split
      · exact Lasts.get_set ..
      · exact keep (sampleOf_fst (.inl ‹_›))

theorem detStep_samples (a n : String) (acc : Lasts × List Emitted) (sd : SigDef) (hnd : (stamps acc.2).Nodup) :
    (samplesOf a n (detStep epoch hasSink actor line acc sd).2).Perm
      (samplesOf a n acc.2 ++ if hasSink sd.name = true ∧ (actor, sd.name) = (a, n) then
        (sampleOf epoch sd (acc.1.get (actor, sd.name)) line).2.toList.map (Point.toSample actor sd) else []) := by
  rw [detStep_eq]
  cases hasSink sd.name
  · simp
  · cases (sampleOf epoch sd (acc.1.get (actor, sd.name)) line).2 with
    | none => simp
    | some p =>
      refine (samplesOf_addTo _ _ _ _ hnd).trans (.of_eq ?_)
      simp [samplesOf_single, Point.toSample]

theorem detStep_silent (acc : Lasts × List Emitted) (sd : SigDef)
    (h : hasSink sd.name = false ∨ (sampleOf epoch sd (acc.1.get (actor, sd.name)) line).2 = none) :
    detStep epoch hasSink actor line acc sd = acc := by
  rw [detStep_eq]
  rcases h with h | h
  · rw [h]; rfl
  · rw [h]; exact ite_self _

/-! ## The loop over the role's signals -/

theorem foldl_nodup (sigs : List SigDef) (acc : Lasts × List Emitted) (h : (stamps acc.2).Nodup) :
    (stamps (sigs.foldl (detStep epoch hasSink actor line) acc).2).Nodup :=
  List.foldlRecOn (motive := fun b => (stamps b.2).Nodup) sigs _ h fun b hb sd _ =>
    detStep_nodup epoch hasSink actor line b sd hb

theorem foldl_other (a n : String) (sigs : List SigDef) (acc : Lasts × List Emitted)
    (h : ∀ sd ∈ sigs, ¬ (hasSink sd.name = true ∧ (actor, sd.name) = (a, n))) (hnd : (stamps acc.2).Nodup) :
    (sigs.foldl (detStep epoch hasSink actor line) acc).1.get (a, n) = acc.1.get (a, n) ∧
    (samplesOf a n (sigs.foldl (detStep epoch hasSink actor line) acc).2).Perm (samplesOf a n acc.2) := by
  induction sigs generalizing acc with
  | nil => exact ⟨rfl, .refl _⟩
  | cons sd sigs ih =>
    have hg := detStep_get epoch hasSink actor line (a, n) acc sd
    have hs := detStep_samples epoch hasSink actor line a n acc sd hnd
    rw [if_neg (h sd List.mem_cons_self)] at hg hs
    rw [List.append_nil] at hs
    have ih := ih (detStep epoch hasSink actor line acc sd) (fun x hx => h x (List.mem_cons_of_mem _ hx))
      (detStep_nodup epoch hasSink actor line acc sd hnd)
    exact ⟨ih.1.trans hg, ih.2.trans hs⟩

end loop

/-! ## One call of `detectSignals` -/

section lines
variable (epoch : Rat) {sigs : List SigDef}

theorem detectLine_key {hasSink : String → Bool} (actor : String) (lasts : Lasts) (line : List Char)
    {sd : SigDef} (hs : hasSink sd.name = true) (hu : sigs.filter (fun x => x.name == sd.name) = [sd]) :
    (detectLine epoch sigs hasSink actor lasts line).1.get (actor, sd.name) =
      (sampleOf epoch sd (lasts.get (actor, sd.name)) line).1 ∧
    samplesOf actor sd.name (detectLine epoch sigs hasSink actor lasts line).2 =
      (sampleOf epoch sd (lasts.get (actor, sd.name)) line).2.toList.map (Point.toSample actor sd) := by
  -- `sd`, and around it signals of other names
  obtain ⟨pre, post, rfl, hpre, -, hpost⟩ := List.filter_eq_cons_iff.1 hu
  have ho : ∀ l : List SigDef, (∀ x ∈ l, ¬ (x.name == sd.name) = true) →
      ∀ x ∈ l, ¬ (hasSink x.name = true ∧ (actor, x.name) = (actor, sd.name)) :=
    fun l hl x hx e => hl x hx (beq_iff_eq.2 (Prod.mk.inj e.2).2)
  have n1 := foldl_nodup epoch hasSink actor line pre (lasts, []) .nil
  have h1 := foldl_other epoch hasSink actor line actor sd.name pre (lasts, []) (ho pre hpre) .nil
  have g2 := detStep_get epoch hasSink actor line (actor, sd.name)
    (pre.foldl (detStep epoch hasSink actor line) (lasts, [])) sd
  have s2 := detStep_samples epoch hasSink actor line actor sd.name _ sd n1
  rw [if_pos ⟨hs, rfl⟩, h1.1] at g2 s2
  have h3 := foldl_other epoch hasSink actor line actor sd.name post _ (ho post (List.filter_eq_nil_iff.1 hpost))
    (detStep_nodup epoch hasSink actor line _ sd n1)
  rw [detectLine_eq, List.foldl_append, List.foldl_cons]
  exact ⟨h3.1.trans g2, eq_of_perm_toList_map ((samplesOf_sort ..).trans
    (h3.2.trans (s2.trans (h1.2.append_right _))))⟩

theorem detectLine_other {hasSink : String → Bool} {actor : String} (lasts : Lasts) (line : List Char)
    {a n : String} (h : ∀ sd ∈ sigs, ¬ (hasSink sd.name = true ∧ (actor, sd.name) = (a, n))) :
    (detectLine epoch sigs hasSink actor lasts line).1.get (a, n) = lasts.get (a, n) ∧
    samplesOf a n (detectLine epoch sigs hasSink actor lasts line).2 = [] := by
  have h := foldl_other epoch hasSink actor line a n sigs (lasts, []) h .nil
  rw [detectLine_eq]
  exact ⟨h.1, List.perm_nil.1 ((samplesOf_sort ..).trans h.2)⟩

/-! ## All the lines -/

theorem detectMulti_key {hasSink : String → String → Bool} {a : String} {sd : SigDef}
    (hs : hasSink a sd.name = true) (hu : sigs.filter (fun x => x.name == sd.name) = [sd]) (lasts : Lasts)
    (als : List (String × List Char)) :
    (detectMulti epoch sigs hasSink lasts als).1.get (a, sd.name) =
      lastAfter epoch sd (lasts.get (a, sd.name)) (linesOf a als) ∧
    samplesOf a sd.name (detectMulti epoch sigs hasSink lasts als).2 =
      (pointsOf epoch sd (lasts.get (a, sd.name)) (linesOf a als)).map (Point.toSample a sd) := by
  induction als generalizing lasts with
  | nil => exact ⟨rfl, rfl⟩
  | cons al als ih =>
    have h2 := ih (detectLine epoch sigs (hasSink al.1) al.1 lasts al.2).1
    rw [detectMulti, linesOf_cons, samplesOf_append]
    by_cases ha : al.1 = a
    · subst ha
      have h1 := detectLine_key epoch al.1 lasts al.2 hs hu
      rw [h1.1] at h2
      rw [if_pos rfl, lastAfter, pointsOf_cons, List.map_append, ← h1.2, ← h2.2]
      exact ⟨h2.1, rfl⟩
    · have h1 := detectLine_other epoch (hasSink := hasSink al.1) (a := a) (n := sd.name) lasts al.2
        (sigs := sigs) fun y _ e => ha (Prod.mk.inj e.2).1
      rw [h1.1] at h2
      rw [if_neg ha, h1.2]
      exact h2

theorem detectAll_key {hasSink : String → Bool} (actor : String) {sd : SigDef} (hs : hasSink sd.name = true)
    (hu : sigs.filter (fun x => x.name == sd.name) = [sd]) (lasts : Lasts) (lines : List (List Char)) :
    (detectAll epoch sigs hasSink actor lasts lines).1.get (actor, sd.name) =
      lastAfter epoch sd (lasts.get (actor, sd.name)) lines ∧
    samplesOf actor sd.name (detectAll epoch sigs hasSink actor lasts lines).2 =
      (pointsOf epoch sd (lasts.get (actor, sd.name)) lines).map (Point.toSample actor sd) := by
  have h := detectMulti_key epoch (hasSink := fun _ => hasSink) (a := actor) hs hu lasts (lines.map (actor, ·))
  rwa [linesOf_map, ← detectAll_eq_multi] at h

theorem detectAll_other {hasSink : String → Bool} {actor a n : String}
    (h : ∀ sd ∈ sigs, ¬ (hasSink sd.name = true ∧ (actor, sd.name) = (a, n)))
    (lasts : Lasts) (lines : List (List Char)) :
    samplesOf a n (detectAll epoch sigs hasSink actor lasts lines).2 = [] := by
  induction lines generalizing lasts with
  | nil => rfl
  | cons l ls ih => rw [detectAll, samplesOf_append, (detectLine_other epoch lasts l h).2, ih]; rfl

end lines

/-! ## Values: raw readings, deltas -/

/-- the raw reading of a line for a numeric signal: time stamp and parsed number, when the line
matches the pattern and both captures are accepted by their parsers -/
def rawOf (epoch : Rat) (sd : SigDef) (line : List Char) : Option (Stamp × Rat) :=
  match matchSig epoch sd line with
  | some (some st, v) => (parseFloat v).map fun x => (st, x)
  | _ => none

/-- the text reading of a line for an event signal -/
def textOf (epoch : Rat) (sd : SigDef) (line : List Char) : Option (Stamp × String) :=
  match matchSig epoch sd line with
  | some (some st, v) => some (st, String.ofList v)
  | _ => none

/-- successive differences, the first one against `last` -/
def diffs : Rat → List (Stamp × Rat) → List Point
  | _, [] => []
  | last, (st, x) :: r => ⟨st, .num (x - last)⟩ :: diffs x r

section values
variable {epoch : Rat} {sd : SigDef}

theorem sampleOf_event (last : Rat) (line : List Char) (h : sd.typ = .event) :
    sampleOf epoch sd last line =
      (last, (textOf epoch sd line).map fun r => ⟨r.1, .str r.2⟩) := by
  unfold sampleOf textOf
  rw [h]
  rcases matchSig epoch sd line with _ | ⟨_ | st, v⟩ <;> rfl

theorem sampleOf_scalar (last : Rat) (line : List Char) (h : sd.typ = .scalar) :
    sampleOf epoch sd last line =
      (last, (rawOf epoch sd line).map fun r => ⟨r.1, .num r.2⟩) := by
  unfold sampleOf rawOf
  rw [h]
  rcases matchSig epoch sd line with _ | ⟨_ | st, v⟩
  · rfl
  · rfl
  · dsimp only
    cases parseFloat v <;> rfl

theorem sampleOf_delta (last : Rat) (line : List Char) (h : sd.typ = .delta) :
    sampleOf epoch sd last line =
      (match rawOf epoch sd line with | some r => r.2 | none => last,
       (rawOf epoch sd line).map fun r => ⟨r.1, .num (r.2 - last)⟩) := by
  unfold sampleOf rawOf
  rw [h]
  rcases matchSig epoch sd line with _ | ⟨_ | st, v⟩
  · rfl
  · rfl
  · dsimp only
    cases parseFloat v <;> rfl

theorem pointsOf_filterMap {f : List Char → Option Point}
    (h : ∀ last line, sampleOf epoch sd last line = (last, f line)) (last : Rat) (lines : List (List Char)) :
    pointsOf epoch sd last lines = lines.filterMap f := by
  induction lines with
  | nil => rfl
  | cons l ls ih =>
    rw [pointsOf_cons, h, ih, List.filterMap_cons]
    cases f l <;> rfl

theorem pointsOf_event (last : Rat) (lines : List (List Char)) (h : sd.typ = .event) :
    pointsOf epoch sd last lines =
      (lines.filterMap (textOf epoch sd)).map fun r => ⟨r.1, .str r.2⟩ :=
  (pointsOf_filterMap (sampleOf_event · · h) last lines).trans List.map_filterMap.symm

theorem pointsOf_scalar (last : Rat) (lines : List (List Char)) (h : sd.typ = .scalar) :
    pointsOf epoch sd last lines =
      (lines.filterMap (rawOf epoch sd)).map fun r => ⟨r.1, .num r.2⟩ :=
  (pointsOf_filterMap (sampleOf_scalar · · h) last lines).trans List.map_filterMap.symm

theorem pointsOf_delta (last : Rat) (lines : List (List Char)) (h : sd.typ = .delta) :
    pointsOf epoch sd last lines = diffs last (lines.filterMap (rawOf epoch sd)) := by
  induction lines generalizing last with
  | nil => rfl
  | cons l ls ih =>
    rw [pointsOf_cons, sampleOf_delta _ _ h, List.filterMap_cons, ih]
    rcases rawOf epoch sd l with _ | ⟨st, x⟩ <;> rfl

end values

theorem diffs_length (last : Rat) (raws : List (Stamp × Rat)) : (diffs last raws).length = raws.length := by
  induction raws generalizing last with
  | nil => rfl
  | cons r rs ih => exact congrArg (· + 1) (ih r.2)

theorem diffs_getElem? (last : Rat) (raws : List (Stamp × Rat)) (k : Nat) :
    (diffs last raws)[k]? =
      raws[k]?.map fun r => ⟨r.1, .num (r.2 - ((last :: raws.map (·.2))[k]?).getD 0)⟩ := by
  induction raws generalizing last k with
  | nil => rfl
  | cons r rs ih =>
    cases k with
    | zero => rfl
    | succ k => exact ih r.2 k

/-! ## Every emitted sample is well-formed -/

def AllSamples (P : Sample → Prop) (evs : List Emitted) : Prop := ∀ e ∈ evs, ∀ s ∈ e.samples, P s

theorem allSamples_addTo (P : Sample → Prop) (st : Stamp) (s : Option Sample) (evs : List Emitted)
    (h : AllSamples P evs) (hs : ∀ x, s = some x → P x) : AllSamples P (addTo st s evs) := by
  intro e he x hx
  unfold addTo at he
  split at he
  · obtain ⟨e0, he0, rfl⟩ := List.mem_map.1 he
    split at hx
    · exact (List.mem_append.1 hx).elim (h e0 he0 x) fun hx => hs x (Option.mem_toList.1 hx)
    · exact h e0 he0 x hx
  · rcases List.mem_append.1 he with he | he
    · exact h e he x hx
    · cases List.mem_singleton.1 he
      exact hs x (Option.mem_toList.1 hx)

theorem detStep_wf (P : Sample → Prop) (epoch : Rat) (hasSink : String → Bool) (actor : String)
    (line : List Char) (acc : Lasts × List Emitted) (sd : SigDef) (h : AllSamples P acc.2)
    (hP : hasSink sd.name = true → ∀ sc : Sc, (Val.sc sc).isNil = false → P ⟨sd.typ, ⟨actor, sd.name⟩, .sc sc⟩) :
    AllSamples P (detStep epoch hasSink actor line acc sd).2 := by
  rw [detStep_eq]
  split
  · rename_i hs
    split
    · exact h
    · rename_i p hp
      refine allSamples_addTo _ _ _ _ h fun x hx => ?_
      cases hx
      exact hP hs p.val (sampleOf_some hp).2
  · exact h

theorem detectLine_wf (epoch : Rat) (sigs : List SigDef) (hasSink : String → Bool) (actor : String)
    (lasts : Lasts) (line : List Char) :
    AllSamples (fun s => s.val.isNil = false ∧ s.v.actor = actor ∧
        ∃ sd ∈ sigs, hasSink sd.name = true ∧ s.v.sig = sd.name ∧ s.typ = sd.typ)
      (detectLine epoch sigs hasSink actor lasts line).2 := by
  rw [detectLine_eq]
  exact fun e he => List.foldlRecOn (motive := fun b : Lasts × List Emitted => AllSamples _ b.2) sigs _ nofun
    (fun b hb sd hsd => detStep_wf _ epoch hasSink actor line b sd hb fun hsk sc hsc =>
      ⟨hsc, rfl, sd, hsd, hsk, rfl, rfl⟩) e ((sort_perm _).mem_iff.1 he)

/-! ## The shape of a matching line -/

theorem matchTagged_some (name : String) (cs v : List Char) (h : matchTagged name cs = some v) :
    cs = name.toList ++ '=' :: v ∧ v ≠ [] ∧ v.all (fun c => !isSp c) = true := by
  unfold matchTagged at h
  dsimp only at h
  obtain ⟨hp, h⟩ := Option.ite_none_right_eq_some.1 h
  obtain ⟨hv, h⟩ := Option.ite_none_right_eq_some.1 h
  cases h
  have hp := eq_of_beq hp
  rw [Bool.and_eq_true, Bool.not_eq_true', List.isEmpty_eq_false_iff] at hv
  refine ⟨?_, hv⟩
  generalize (name.toList ++ ['=']).length = n at *
  rw [← List.singleton_append, ← List.append_assoc, ← hp, List.take_append_drop]

theorem matchRec_some (epoch : Rat) (sd : SigDef) (line v : List Char) (st : Option Stamp)
    (h : matchRec epoch sd line = some (st, v)) :
    v ≠ [] ∧ v.all (fun c => !isSp c) = true ∧
    ∃ pre, line = pre ++ (sd.tag.toList ++ '=' :: v) ∧
      match sd.ts with
      | .now => pre = [] ∧ st = some .now
      | .deltasecs => pre = line.takeWhile (· != ' ') ++ [' '] ∧ isDeltaSecs (line.takeWhile (· != ' ')) = true ∧
          st = (parseFloat (line.takeWhile (· != ' '))).map .at
      | .rfc3339 => pre = line.takeWhile (· != ' ') ++ [' '] ∧
          ∃ r, parseRfc3339 (line.takeWhile (· != ' ')) = some r ∧ st = r.map fun u => .at (u - epoch)
      | .log => pre = line.take 22 ++ [' '] ∧
          ∃ r, parseLogTs (line.take 22) = some r ∧ st = r.map fun u => .at (u - epoch) := by
  -- whatever the kind of stamp, the value is what `matchTagged` finds in the rest of the record
  have key : ∀ (S : Option Stamp) (pre rest : List Char), line = pre ++ rest →
      (matchTagged sd.tag rest).map (fun v => (S, v)) = some (st, v) →
      v ≠ [] ∧ v.all (fun c => !isSp c) = true ∧ line = pre ++ (sd.tag.toList ++ '=' :: v) ∧ st = S := by
    intro S pre rest hl hm
    obtain ⟨w, hw, he⟩ := Option.map_eq_some_iff.1 hm
    cases he
    obtain ⟨h1, h2, h3⟩ := matchTagged_some _ _ _ hw
    exact ⟨h2, h3, h1 ▸ hl, rfl⟩
  have sp : ∀ rest, line.dropWhile (· != ' ') = ' ' :: rest →
      line = (line.takeWhile (· != ' ') ++ [' ']) ++ rest := fun rest hd => by
    rw [List.append_assoc, List.singleton_append, ← hd, List.takeWhile_append_dropWhile]
  rcases sd with ⟨name, tag, typ, ts, pos⟩
  unfold matchRec at h
  cases ts <;> dsimp only at h
  · obtain ⟨h1, h2, h3, h4⟩ := key _ [] line rfl h
    exact ⟨h1, h2, [], h3, rfl, h4⟩
  · split at h
    · rename_i rest hd
      obtain ⟨hds, h⟩ := Option.ite_none_right_eq_some.1 h
      obtain ⟨h1, h2, h3, h4⟩ := key _ _ rest (sp rest hd) h
      exact ⟨h1, h2, _, h3, rfl, hds, h4⟩
    · cases h
  · split at h
    · rename_i rest hd
      split at h
      · rename_i r hr
        obtain ⟨h1, h2, h3, h4⟩ := key _ _ rest (sp rest hd) h
        exact ⟨h1, h2, _, h3, rfl, r, hr, h4⟩
      · cases h
    · cases h
  · split at h
    · rename_i r rest hr hd
      obtain ⟨h1, h2, h3, h4⟩ := key _ (line.take 22 ++ [' ']) rest
        (by rw [List.append_assoc, List.singleton_append, ← hd, List.take_append_drop]) h
      exact ⟨h1, h2, _, h3, rfl, r, hr, h4⟩
    · cases h

theorem matchSig_rec (epoch : Rat) (sd : SigDef) (line : List Char) (x : Option Stamp × List Char)
    (hpos : sd.pos ≠ 3) (h : matchSig epoch sd line = some x) :
    ∃ rec, recordOf sd.pos line = some rec ∧ matchRec epoch sd rec = some x := by
  unfold matchSig at h
  rw [if_neg hpos] at h
  exact Option.bind_eq_some_iff.1 h

end Shk.Spot

