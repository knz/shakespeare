import ShkModel.Lemmas.Sort
/-!
# `collectStep` against `collectSpec` (C11, `collects … first|last|top|bottom N`): one step from the specified
value to the specified value, and the fold
-/
namespace Shk.Collect
open Shk Shk.FuncSpec Shk.Sort

/-- the successive `collectFn` calls on the values `xs`, starting from the array `a`;
`none` as soon as one call reports an error -/
def collectRun (m : Mode) (n : Nat) (a : List Sc) (xs : List Sc) : Option (List Sc) :=
  xs.foldlM (collectStep m n) a

@[simp] theorem collectRun_nil (m : Mode) (n : Nat) (a : List Sc) : collectRun m n a [] = some a := rfl

@[simp] theorem collectRun_cons (m : Mode) (n : Nat) (a : List Sc) (x : Sc) (xs : List Sc) :
    collectRun m n a (x :: xs) = (collectStep m n a x).bind fun a' => collectRun m n a' xs := by
  simp [collectRun, List.foldlM_cons]

/-- the values a `top`/`bottom` collector refuses; it accepts nil, numbers and booleans -/
def Sc.isStr : Sc → Bool
  | .str _ => true
  | _ => false

@[simp] theorem nonNil_nil : nonNil [] = [] := rfl

@[simp] theorem nonNil_append (a b : List Sc) : nonNil (a ++ b) = nonNil a ++ nonNil b := by
  simp [nonNil]

theorem nonNil_cons_nil (l : List Sc) : nonNil (Sc.nil :: l) = nonNil l := by simp [nonNil]

theorem nonNil_cons {x : Sc} (h : x ≠ .nil) (l : List Sc) : nonNil (x :: l) = x :: nonNil l := by
  simp [nonNil, h]

theorem nonNil_snoc {x : Sc} (h : x ≠ .nil) (l : List Sc) : nonNil (l ++ [x]) = nonNil l ++ [x] := by
  rw [nonNil_append, nonNil_cons h, nonNil_nil]

theorem numOf_cases (x : Sc) : x = .nil ∨ (∃ s, x = .str s) ∨ ∃ v, x.numOf = some v := by
  cases x <;> simp [Sc.numOf]

theorem ne_nil_of_numOf {x : Sc} {v : Rat} (h : x.numOf = some v) : x ≠ .nil := by
  rintro rfl; cases h

@[simp] theorem numsOfAll_nil : numsOfAll [] = [] := rfl

theorem numsOfAll_cons_nil (l : List Sc) : numsOfAll (Sc.nil :: l) = numsOfAll l := by
  simp [numsOfAll, nonNil_cons_nil]

theorem numsOfAll_cons {x : Sc} {v : Rat} (h : x.numOf = some v) (l : List Sc) :
    numsOfAll (x :: l) = v :: numsOfAll l := by
  simp [numsOfAll, nonNil_cons (ne_nil_of_numOf h), h]

theorem numsOfAll_snoc {x : Sc} {v : Rat} (h : x.numOf = some v) (l : List Sc) :
    numsOfAll (l ++ [x]) = numsOfAll l ++ [v] := by
  simp [numsOfAll, nonNil_snoc (ne_nil_of_numOf h), h]

theorem collectSpec_nil (m : Mode) (n : Nat) : collectSpec m n [] = [] := by
  cases m <;> simp [collectSpec, sortDesc, sortAsc]

theorem collectSpec_congr (m : Mode) (n : Nat) {xs ys : List Sc} (h : nonNil xs = nonNil ys) :
    collectSpec m n xs = collectSpec m n ys := by
  cases m <;> simp only [collectSpec, numsOfAll, h]

theorem step_nil (m : Mode) (n : Nat) (a : List Sc) : collectStep m n a .nil = some a := by
  cases m <;> rfl

theorem first_step (n : Nat) (l : List Sc) (x : Sc) (hx : x ≠ .nil) :
    collectStep .first n (l.take n) x = some ((l ++ [x]).take n) := by
  simp only [collectStep, beq_false_of_ne hx, Bool.false_or, decide_eq_true_eq]
  by_cases hl : n ≤ l.length
  · rw [if_pos (Nat.le_of_eq (List.length_take_of_le hl).symm), List.take_append_of_le_length hl]
  · have hl : l.length < n := Nat.lt_of_not_le hl
    rw [List.take_of_length_le (Nat.le_of_lt hl), if_neg (Nat.not_le.2 hl),
      List.take_of_length_le (by rw [List.length_append]; exact hl)]

/-- for `n = 0` the code keeps the new element: hence `1 ≤ n` -/
theorem last_step (n : Nat) (hn : 1 ≤ n) (l : List Sc) (x : Sc) (hx : x ≠ .nil) :
    collectStep .last n (l.drop (l.length - n)) x = some ((l ++ [x]).drop (l.length + 1 - n)) := by
  simp only [collectStep, beq_false_of_ne hx, Bool.false_eq_true, if_false, List.length_drop, List.drop_drop]
  by_cases hl : n ≤ l.length
  · rw [if_pos (Nat.le_of_eq (Nat.sub_sub_self hl).symm), Nat.sub_add_comm hl,
      List.drop_append_of_le_length (Nat.sub_lt (Nat.lt_of_lt_of_le hn hl) hn)]
  · have hl : l.length < n := Nat.lt_of_not_le hl
    rw [Nat.sub_eq_zero_of_le (Nat.le_of_lt hl), Nat.sub_zero, if_neg (Nat.not_le.2 hl),
      Nat.sub_eq_zero_of_le hl]
    rfl

/-- `top` and `bottom`: `ins` into the first `n` of the sort `srt`, truncated again -/
theorem ranked_step {R : Rat → Rat → Prop} {r : Rat → Rat → Bool} (ho : Decides R r)
    {srt : List Rat → List Rat} (hs : ∀ l, (srt l).Pairwise R) (hp : ∀ l, (srt l).Perm l)
    {ins : Rat → List Sc → List Sc}
    (hmap : ∀ v l, ins v (l.map Sc.num) = (insertBy r v l).map Sc.num) (n : Nat) (ns : List Rat) (v : Rat) :
    (ins v (((srt ns).take n).map Sc.num)).take n = ((srt (ns ++ [v])).take n).map Sc.num := by
  rw [hmap, ← List.map_take, take_insertBy_take, ho.insertBy_sort hs hp]

theorem ranked_spec (m : Mode) (hm : m = .top ∨ m = .bottom) (n : Nat) (xs : List Sc) {x : Sc} {v : Rat}
    (hv : x.numOf = some v) :
    collectStep m n (collectSpec m n xs) x = some (collectSpec m n (xs ++ [x])) := by
  rcases hm with rfl | rfl <;>
    simp only [collectStep, collectSpec, beq_false_of_ne (ne_nil_of_numOf hv), hv, numsOfAll_snoc hv,
      Bool.false_eq_true, if_false]
  · exact congrArg some (ranked_step decides_ge sortDesc_sorted sortDesc_perm insertDesc_map n _ v)
  · exact congrArg some (ranked_step decides_le sortAsc_sorted sortAsc_perm insertAscSc_map n _ v)

theorem step_spec (m : Mode) (n : Nat) (hn : m = .last → 1 ≤ n) (xs : List Sc) (x : Sc)
    (hx : m = .top ∨ m = .bottom → Sc.isStr x = false) :
    collectStep m n (collectSpec m n xs) x = some (collectSpec m n (xs ++ [x])) := by
  by_cases h0 : x = .nil
  · subst h0; rw [step_nil]
    exact congrArg some (collectSpec_congr m n (by simp [nonNil_cons_nil]))
  · cases m with
    | single => rfl
    | first => simpa only [collectSpec, nonNil_snoc h0] using first_step n (nonNil xs) x h0
    | last =>
      simpa only [collectSpec, nonNil_snoc h0, List.length_append, List.length_singleton] using
        last_step n (hn rfl) (nonNil xs) x h0
    | top | bottom =>
      rcases numOf_cases x with rfl | ⟨s, rfl⟩ | ⟨v, hv⟩
      · exact absurd rfl h0
      · cases hx (by simp)
      · exact ranked_spec _ (by simp) n xs hv

theorem step_top_str (n : Nat) (a : List Sc) (s : String) : collectStep .top n a (.str s) = none := rfl

theorem step_bottom_str (n : Nat) (a : List Sc) (s : String) :
    collectStep .bottom n a (.str s) = none := rfl

theorem step_accepts {m : Mode} {n : Nat} {a l : List Sc} {x : Sc} (h : collectStep m n a x = some l)
    (hm : m = .top ∨ m = .bottom) : Sc.isStr x = false := by
  cases x with
  | str s => rcases hm with rfl | rfl <;> cases h
  | _ => rfl

theorem run_append (m : Mode) (n : Nat) (a : List Sc) (xs ys : List Sc) :
    collectRun m n a (xs ++ ys) = (collectRun m n a xs).bind fun a' => collectRun m n a' ys := by
  induction xs generalizing a with
  | nil => simp
  | cons x xs ih =>
    rw [List.cons_append, collectRun_cons, collectRun_cons]
    cases collectStep m n a x with
    | none => rfl
    | some a' => simp [ih]

theorem run_of_step (m : Mode) (n : Nat) (P : Sc → Prop)
    (hstep : ∀ pre x, P x →
      collectStep m n (collectSpec m n pre) x = some (collectSpec m n (pre ++ [x])))
    (pre xs : List Sc) (hxs : ∀ x ∈ xs, P x) :
    collectRun m n (collectSpec m n pre) xs = some (collectSpec m n (pre ++ xs)) := by
  induction xs generalizing pre with
  | nil => simp
  | cons x xs ih =>
    rw [collectRun_cons, hstep pre x (hxs x (by simp)), Option.bind_some,
      ih (pre ++ [x]) (fun y hy => hxs y (by simp [hy]))]
    simp

theorem run_none_of_step_none (m : Mode) (n : Nat) (P : Sc → Prop)
    (hstep : ∀ pre x, P x →
      collectStep m n (collectSpec m n pre) x = some (collectSpec m n (pre ++ [x])))
    (pre xs : List Sc) (hxs : ∀ x ∈ xs, P x) (y : Sc) (ys : List Sc)
    (hy : ∀ a, collectStep m n a y = none) :
    collectRun m n (collectSpec m n pre) (xs ++ y :: ys) = none := by
  rw [run_append, run_of_step m n P hstep pre xs hxs, Option.bind_some, collectRun_cons, hy]; rfl

theorem run_spec (m : Mode) (n : Nat) (hn : m = .last → 1 ≤ n) (pre xs : List Sc)
    (hxs : m = .top ∨ m = .bottom → ∀ x ∈ xs, Sc.isStr x = false) :
    collectRun m n (collectSpec m n pre) xs = some (collectSpec m n (pre ++ xs)) :=
  run_of_step m n (fun x => m = .top ∨ m = .bottom → Sc.isStr x = false)
    (fun p x hx => step_spec m n hn p x hx) pre xs (fun x hx hm => hxs hm x hx)

theorem run_from_nil (m : Mode) (n : Nat) (hn : m = .last → 1 ≤ n) (xs : List Sc)
    (hxs : m = .top ∨ m = .bottom → ∀ x ∈ xs, Sc.isStr x = false) :
    collectRun m n [] xs = some (collectSpec m n xs) := by
  simpa only [collectSpec_nil, List.nil_append] using run_spec m n hn [] xs hxs

theorem run_accepts {m : Mode} {n : Nat} {a l : List Sc} {xs : List Sc} (h : collectRun m n a xs = some l)
    (hm : m = .top ∨ m = .bottom) : ∀ x ∈ xs, Sc.isStr x = false := by
  induction xs generalizing a with
  | nil => exact fun _ h => (List.not_mem_nil h).elim
  | cons x xs ih =>
    rw [collectRun_cons, Option.bind_eq_some_iff] at h
    obtain ⟨a', hs, h⟩ := h
    intro y hy
    rcases List.mem_cons.1 hy with rfl | hy
    · exact step_accepts hs hm
    · exact ih h y hy

theorem insertDesc_length (x : Rat) (a : List Sc) : (insertDesc x a).length = a.length + 1 := by
  induction a with
  | nil => rfl
  | cons y ys ih =>
    simp only [insertDesc]; split
    · split <;> simp [ih]
    · simp

theorem insertAscSc_length (x : Rat) (a : List Sc) : (insertAscSc x a).length = a.length + 1 := by
  induction a with
  | nil => rfl
  | cons y ys ih =>
    simp only [insertAscSc]; split
    · split <;> simp [ih]
    · simp

theorem step_length (m : Mode) (n : Nat) (hn : 1 ≤ n) (a l : List Sc) (x : Sc)
    (ha : a.length ≤ n) (h : collectStep m n a x = some l) : l.length ≤ n := by
  cases m with
  | single => cases h; exact ha
  | first =>
    simp only [collectStep] at h; split at h <;> cases h
    · exact ha
    · rename_i hc
      simp only [Bool.or_eq_true, decide_eq_true_eq, not_or, Nat.not_le] at hc
      rw [List.length_append]; exact hc.2
  | last =>
    simp only [collectStep] at h; split at h <;> cases h
    · exact ha
    · rw [List.length_append, List.length_singleton]; split
      · rename_i hc
        rw [List.length_drop, Nat.sub_add_cancel (Nat.le_trans hn hc)]; exact ha
      · rename_i hc; exact Nat.lt_of_not_le hc
  | top | bottom =>
    simp only [collectStep] at h; split at h
    · cases h; exact ha
    · split at h <;> cases h; exact List.length_take_le n _

end Shk.Collect
