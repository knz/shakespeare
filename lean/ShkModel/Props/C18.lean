import ShkModel.Lemmas.Timeutil
/-!
# C18 — microsecond conversions round to nearest; Timers honour Reset/Stop

Model: `ShkModel/Model/Timeutil.lean` (`pkg/crdb/timeutil`).  An instant is `(sec, nsec)` with `0 ≤ nsec < 10⁹`;
`run {} os` is any history of Reset / tick / receive / Stop on a fresh `Timer`, `Read` being set by every receive
(the contract of the wrapper).
-/
namespace Shk.C18
open Shk.Timeutil

/-- `ToUnixMicros` is the nearest microsecond (half up), for every instant. -/
theorem toUnixMicros_nearest (sec nsec : Int) (h0 : 0 ≤ nsec) (h1 : nsec < 1000000000) :
    toUnixMicros sec nsec = nearestMicros sec nsec := toUnixMicros_eq_nearest sec nsec

/-- hence monotone in the instant -/
theorem toUnixMicros_mono (s1 n1 s2 n2 : Int) (h0 : 0 ≤ n1) (h1 : n1 < 1000000000)
    (h2 : 0 ≤ n2) (h3 : n2 < 1000000000)
    (hle : s1 * 1000000000 + n1 ≤ s2 * 1000000000 + n2) :
    toUnixMicros s1 n1 ≤ toUnixMicros s2 n2 := by
  rw [toUnixMicros_eq_nearest, toUnixMicros_eq_nearest]
  exact Int.ediv_le_ediv (by decide) (by omega)

/-- `FromUnixMicros` yields a normalised instant -/
theorem fromUnixMicros_normalised (us : Int) :
    0 ≤ (fromUnixMicros us).2 ∧ (fromUnixMicros us).2 < 1000000000 := by
  rw [fromUnixMicros_eq]
  exact ⟨Int.emod_nonneg _ (by decide), Int.emod_lt_of_pos _ (by decide)⟩

/-- `FromUnixMicros` denotes the instant `us` microseconds after the epoch, to the nanosecond -/
theorem fromUnixMicros_value (us : Int) :
    (fromUnixMicros us).1 * 1000000000 + (fromUnixMicros us).2 = us * 1000 := by
  rw [fromUnixMicros_eq, Int.mul_comm]
  exact Int.mul_ediv_add_emod ..

/-- `ToUnixMicros ∘ FromUnixMicros` is the identity. -/
theorem roundtrip (us : Int) : toUnixMicros (fromUnixMicros us).1 (fromUnixMicros us).2 = us := by
  rw [toUnixMicros_eq_nearest, nearestMicros, fromUnixMicros_value]; omega

/-- the error is at most half a microsecond, on either side -/
theorem toUnixMicros_error (sec nsec : Int) (h0 : 0 ≤ nsec) (h1 : nsec < 1000000000) :
    toUnixMicros sec nsec * 1000 - 500 ≤ sec * 1000000000 + nsec ∧
    sec * 1000000000 + nsec < toUnixMicros sec nsec * 1000 + 500 := by
  rw [toUnixMicros_eq_nearest, nearestMicros]; omega

/-- the pinned code violated the property: witness at the carry into the next second. -/
theorem old_is_wrong : toUnixMicrosOld 0 999999500 ≠ nearestMicros 0 999999500 := by decide

/-- and exactly there: the old code is right iff rounding does not carry. -/
theorem old_wrong_iff (sec nsec : Int) (h0 : 0 ≤ nsec) (h1 : nsec < 1000000000) :
    toUnixMicrosOld sec nsec ≠ nearestMicros sec nsec ↔ 999999500 ≤ nsec := by
  rw [← toUnixMicros_eq_nearest]
  simp only [toUnixMicrosOld, toUnixMicros, roundUs]; omega

/-- in general `FromUnixMicros ∘ ToUnixMicros` is the rounding `t.Round(time.Microsecond)` itself -/
theorem from_to_is_round (sec nsec : Int) (h0 : 0 ≤ nsec) (h1 : nsec < 1000000000) :
    fromUnixMicros (toUnixMicros sec nsec) = roundUs sec nsec := by
  rw [toUnixMicros_eq_nearest, fromUnixMicros_eq]; rfl

/-- the other direction: on an instant that already is a whole number of microseconds the pair
`FromUnixMicros ∘ ToUnixMicros` gives the instant back, exactly — nothing is lost by storing it. -/
theorem roundtrip_aligned (sec nsec : Int) (h0 : 0 ≤ nsec) (h1 : nsec < 1000000000)
    (ha : nsec % 1000 = 0) :
    fromUnixMicros (toUnixMicros sec nsec) = (sec, nsec) := by
  have e : (sec * 1000000000 + nsec + 500) / 1000 * 1000 = nsec + 1000000000 * sec := by omega
  obtain ⟨h2, h3⟩ := (Int.ediv_emod_unique (show (0 : Int) < 1000000000 by decide)).mpr ⟨rfl, h0, h1⟩
  rw [from_to_is_round sec nsec h0 h1, roundUs, e, h2, h3]

/-- rounding is idempotent: a rounded instant converts to the same microsecond count -/
theorem toUnixMicros_round_idem (sec nsec : Int) (h0 : 0 ≤ nsec) (h1 : nsec < 1000000000) :
    toUnixMicros (roundUs sec nsec).1 (roundUs sec nsec).2 = toUnixMicros sec nsec := by
  rw [← from_to_is_round _ _ h0 h1, roundtrip]

/-- `FromUnixMicros` is injective: two different counts never denote one instant … -/
theorem fromUnixMicros_injective (a b : Int) (h : fromUnixMicros a = fromUnixMicros b) : a = b := by
  rw [← roundtrip a, ← roundtrip b, h]

/-- … and `ToUnixMicros` is onto: every count is the image of a normalised instant. -/
theorem toUnixMicros_surjective (us : Int) :
    ∃ sec nsec, 0 ≤ nsec ∧ nsec < 1000000000 ∧ toUnixMicros sec nsec = us :=
  ⟨_, _, (fromUnixMicros_normalised us).1, (fromUnixMicros_normalised us).2, roundtrip us⟩

/-- `FromUnixMicros` is strictly monotone on the time line -/
theorem fromUnixMicros_strictMono (a b : Int) (h : a < b) :
    (fromUnixMicros a).1 * 1000000000 + (fromUnixMicros a).2 <
    (fromUnixMicros b).1 * 1000000000 + (fromUnixMicros b).2 := by
  rw [fromUnixMicros_value, fromUnixMicros_value]; omega

example : fromUnixMicros (toUnixMicros (-1) 999999000) = (-1, 999999000) := by decide
example : fromUnixMicros (toUnixMicros 0 999999500) = (1, 0) := by decide

/-- **Reset never blocks**: the drain `<-t.C` is only reached when the channel holds a value. -/
theorem reset_never_blocks (os : List Op) (d : Nat) :
    (step (run {} os).1 (.reset d)).2 = Out.ok :=
  (reset_armed (inv_run inv_init os) d).1

/-- no `blocked` output anywhere in any run -/
theorem no_blocked (os : List Op) : Out.blocked ∉ (run {} os).2 := run_ne_blocked inv_init os

/-- **Not before the requested duration**: a received value was fired at or after the deadline
of the latest Reset. -/
theorem not_before_duration (os : List Op) (v : Nat) :
    (step (run {} os).1 .recv).2 = Out.got v → (run {} os).1.deadline ≤ v :=
  recv_got (inv_run inv_init os)

/-- **At most one fire per Reset**: the number of received values never exceeds the number of
Resets (the pending value and an armed timer are mutually exclusive). -/
theorem one_fire_per_reset (os : List Op) : (run {} os).1.recvd ≤ (run {} os).1.resets :=
  (inv_run inv_init os).recvd_le

/-- **One when the duration elapses**: after a Reset and at least `d` ticks with no other operation, a receive
delivers (no more than one per Reset: `one_fire_per_reset`). -/
theorem fires_after_duration (os : List Op) (d dt : Nat) (hd : d ≤ dt) :
    ∃ v, (step (step (step (run {} os).1 (.reset d)).1 (.tick dt)).1 .recv).2 = Out.got v := by
  obtain ⟨-, hn, ht⟩ := reset_armed (inv_run inv_init os) d
  exact ⟨_, by rw [tick_recv ht, hn, if_pos (by omega)]⟩

/-- **Never after a successful Stop** (nor after any Stop): the wrapper's channel is nil, so no
receive succeeds until the next Reset. -/
theorem silent_after_stop (os : List Op) (ticks : List Nat) :
    (step ((ticks.map Op.tick).foldl (fun s o => (step s o).1) (step (run {} os).1 .stop).1) .recv).2
      = Out.none :=
  recv_none <| List.foldlRecOn (motive := fun s : St => s.timer = none) _ _ (stop_timer _) fun s hs o ho => by
    obtain ⟨dt, -, rfl⟩ := List.mem_map.mp ho
    exact tick_timer_none hs dt

/-- an armed time.Timer has an empty channel in every reachable state: the one that a successful Stop hands back to
the pool holds no stale value. -/
theorem stopped_timer_is_clean (os : List Op) :
    ∀ g, (run {} os).1.timer = some g → g.armed.isSome = true → g.chan = none :=
  (inv_run inv_init os).armed_clean

/-- **The pool is clean**: in every reachable state the time.Timers that successful Stops handed back to
`timeTimerPool` hold no value — so a Timer that takes one of them at its first Reset starts with an empty channel,
whatever Timer it served before (the model re-arms a pooled timer *with* its channel: `step`, case `reset` on nil). -/
theorem pool_is_clean (os : List Op) : ∀ g ∈ (run {} os).1.pool, g.chan = none :=
  (inv_run inv_init os).pool_clean

/-- … hence nothing of an earlier life shows after Stop and a new Reset: until the new duration has elapsed a receive
finds nothing -/
theorem nothing_of_the_past (os : List Op) (d dt : Nat) (hd : dt < d) :
    (step (step (step (step (run {} os).1 .stop).1 (.reset d)).1 (.tick dt)).1 .recv).2 = Out.none := by
  obtain ⟨-, hn, ht⟩ := reset_armed (inv_step (inv_run inv_init os) .stop) d
  rw [tick_recv ht, hn, if_neg (by omega)]

/-! Non-vacuity: a concrete history exercising drain, receive and stop. -/
example : (run {} [.reset 3, .tick 5, .reset 2, .tick 1, .recv, .tick 1, .recv, .stop]).2 =
    [.ok, .ok, .ok, .ok, .none, .ok, .got 7, .stopped false] := by decide

end Shk.C18
