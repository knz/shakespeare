import ShkModel.Lemmas.Story
/-! Lemmas for C10 about the storyline model of C06 (`Shk.Story`): a storyline whose acts are non-empty and
made of plain characters is read back from its printed form (`joinSp`) as it is (`splitSp_joinSp`,
`cleanPart_id`), and `combineStory` keeps that shape (`isShort_plain`, `comb_ne_nil`, `combineStory_props`). -/
namespace Shk.Printer
open Shk.Story (Act)

open Shk.Story in
theorem splitSp_append_space : ∀ (a t : List Char), ' ' ∉ a → splitSp (a ++ ' ' :: t) = a :: splitSp t
  | [], _, _ => by simp [splitSp]
  | c :: a, t, h => by
    simp only [List.mem_cons, not_or] at h
    simp [splitSp, Ne.symm h.1, splitSp_append_space a t h.2, consHead]

open Shk.Story in
theorem splitSp_joinSp : ∀ (s : List Act), s ≠ [] → (∀ a ∈ s, ' ' ∉ a) → splitSp (joinSp s) = s
  | [a], _, hsp => by
    have : ∀ a : List Char, ' ' ∉ a → splitSp a = [a] := fun a => by
      induction a with
      | nil => exact fun _ => rfl
      | cons c a ih =>
        intro h
        simp only [List.mem_cons, not_or] at h
        simp [splitSp, Ne.symm h.1, ih h.2, consHead]
    exact this a (hsp a (by simp))
  | a :: b :: s, _, hsp => by
    rw [joinSp, splitSp_append_space a _ (hsp a (by simp)),
      splitSp_joinSp (b :: s) (by simp) fun x hx => hsp x (List.mem_cons_of_mem _ hx)]
    exact nofun

/-- a white-space code point of three bytes ends in a byte ≥ 0x80 -/
theorem spaceLen_three {e d c : Char} (hc : c.toNat < 128) : Shk.Story.spaceLen [e, d, c] ≠ 3 := by
  unfold Shk.Story.spaceLen; dsimp only
  split
  · decide
  · split
    case h_1 heq => cases heq; split <;> decide
    case h_2 heq | h_3 heq | h_4 heq => cases heq; simp; omega
    case h_5 => simp

open Shk.Story in
theorem trim_plain (a : List Char) (hs : ∀ x ∈ a, isPlain x = true) : trim a = a := by
  have hp : ∀ {c}, isPlain c = true → isSpace c = false ∧ c.toNat < 128 := fun h => by
    simpa [isPlain] using h
  have hfix : ∀ (len : List Char → Nat) (l : List Char), len l = 0 → dropSpaces len l.length l = l :=
    fun len l h => by cases l <;> simp [dropSpaces, h]
  have h1 : spaceLen a = 0 := by
    cases a with
    | nil => rfl
    | cons c r =>
      obtain ⟨hsp, hlt⟩ := hp (hs c (by simp))
      unfold spaceLen; dsimp only
      rw [if_neg (by simp [hsp])]
      -- every multi-byte arm asks for a lead byte ≥ 0xC2; the default arm is 0
      split <;> first | omega | rfl
  have h2 : spaceLenR a.reverse = 0 := by
    cases hr : a.reverse with
    | nil => rfl
    | cons c r =>
      obtain ⟨hsp, hlt⟩ := hp (hs c (List.mem_reverse.mp (by simp [hr])))
      have hk : ∀ k, 128 ≤ k → (c.toNat == k) = false := fun k hk => by simp; omega
      unfold spaceLenR; dsimp only
      rw [if_neg (by simp [hsp])]
      rcases r with _ | ⟨d, _ | ⟨e, _⟩⟩ <;> simp [hk, spaceLen_three hlt]
  have h3 := hfix spaceLenR a.reverse h2
  rw [List.length_reverse] at h3
  rw [trim, hfix _ a h1, h3, List.reverse_reverse]

open Shk.Story in
theorem cleanPart_id (a : List Char) (hs : ∀ x ∈ a, isPlain x = true) (hu : '_' ∉ a) : cleanPart a = a := by
  rw [cleanPart, trim_plain a hs]
  exact List.filter_eq_self.mpr fun x hx => by simpa using fun (e : x = '_') => hu (e ▸ hx)

theorem isShort_plain {x : Char} (h : Shk.Story.isShort x = true) : Shk.Story.isPlain x = true := by
  have hlt : x.toNat < 128 := by
    simp only [Shk.Story.isShort, Bool.or_eq_true, Bool.and_eq_true, decide_eq_true_eq] at h
    have hle : ∀ y : Char, x ≤ y → x.toNat ≤ y.toNat := fun y => UInt32.le_iff_toNat_le.mp
    rcases h with (⟨-, h⟩ | ⟨-, h⟩) | ⟨-, h⟩ <;> exact Nat.lt_of_le_of_lt (hle _ h) (by decide)
  have hsp : Shk.Story.isSpace x = false := by
    cases hs : Shk.Story.isSpace x with
    | false => rfl
    | true =>
      simp only [Shk.Story.isSpace, Bool.or_eq_true, beq_iff_eq] at hs
      rcases hs with ((((rfl | rfl) | rfl) | rfl) | rfl) | rfl <;> revert h <;> decide
  simp [Shk.Story.isPlain, hsp, hlt]

theorem comb_ne_nil (c : Char) (a b : List Char) : Shk.Story.comb (c :: a) b ≠ [] := by
  rw [Shk.Story.comb]
  intro h
  have h1 := (List.append_eq_nil_iff.mp h).1
  unfold Shk.Story.piece at h1
  split at h1
  · split at h1 <;> simp_all
  · simp [Shk.Story.extract] at h1

theorem combineStory_props {P : List Char → Prop} (hcomb : ∀ a b, P a → P b → P (Shk.Story.comb a b)) :
    ∀ (s1 s2 : List Act), (∀ a ∈ s1, P a) → (∀ b ∈ s2, P b) → ∀ x ∈ Shk.Story.combineStory s1 s2, P x
  | [], s2, _, h2, x, hx => h2 x hx
  | a :: s1, [], h1, _, x, hx => h1 x hx
  | a :: s1, b :: s2, h1, h2, x, hx => by
    rcases List.mem_cons.mp hx with rfl | hx
    · exact hcomb a b (h1 a (by simp)) (h2 b (by simp))
    · exact combineStory_props hcomb s1 s2 (fun y hy => h1 y (by simp [hy])) (fun y hy => h2 y (by simp [hy])) x hx

end Shk.Printer
