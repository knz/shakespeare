import ShkModel.Model.Story
/-! C06, `combineActs` and `combineStoryLines`: well-formed acts are sequences of units `c(+d)*`, one unit per column;
merging two of them merges their columns, and the result is well-formed again. -/
namespace Shk.Story

/-! ## Merging lists position by position -/

/-- `zipWith f`, except that the longer list supplies the rest: the shape shared by `zipLong`, `zipActs` and
`combineStory` -/
def zipL {α : Type} (f : α → α → α) : List α → List α → List α
  | [], ys => ys
  | x :: xs, [] => x :: xs
  | x :: xs, y :: ys => f x y :: zipL f xs ys

theorem eq_zipL {α : Type} {f : α → α → α} {z : List α → List α → List α} (h1 : ∀ ys, z [] ys = ys)
    (h2 : ∀ x xs, z (x :: xs) [] = x :: xs) (h3 : ∀ x xs y ys, z (x :: xs) (y :: ys) = f x y :: z xs ys) :
    z = zipL f := by
  funext xs ys
  induction xs generalizing ys with
  | nil => exact h1 ys
  | cons x xs ih =>
    cases ys with
    | nil => exact h2 x xs
    | cons y ys => rw [h3, zipL, ih]

theorem zipLong_eq : zipLong = zipL (· ++ ·) := eq_zipL (fun _ => rfl) (fun _ _ => rfl) fun _ _ _ _ => rfl
theorem zipActs_eq : zipActs = zipL zipLong := eq_zipL (fun _ => rfl) (fun _ _ => rfl) fun _ _ _ _ => rfl
theorem combineStory_eq : combineStory = zipL comb := eq_zipL (fun _ => rfl) (fun _ _ => rfl) fun _ _ _ _ => rfl

section
variable {α β : Type} {f : α → α → α}

theorem zipL_nil (xs : List α) : zipL f xs [] = xs := by cases xs <;> rfl

theorem zipL_assoc (hf : ∀ x y z, f (f x y) z = f x (f y z)) (xs ys zs : List α) :
    zipL f (zipL f xs ys) zs = zipL f xs (zipL f ys zs) := by
  induction xs generalizing ys zs with
  | nil => rfl
  | cons x xs ih =>
    cases ys with
    | nil => rfl
    | cons y ys =>
      cases zs with
      | nil => rfl
      | cons z zs => simp only [zipL, hf, ih]

theorem forall_mem_zipL {P : α → Prop} (hf : ∀ x y, P x → P y → P (f x y)) {xs ys : List α}
    (hx : ∀ x ∈ xs, P x) (hy : ∀ y ∈ ys, P y) : ∀ z ∈ zipL f xs ys, P z := by
  induction xs generalizing ys with
  | nil => exact hy
  | cons x xs ih =>
    cases ys with
    | nil => exact hx
    | cons y ys =>
      rw [List.forall_mem_cons] at hx hy
      exact List.forall_mem_cons.mpr ⟨hf x y hx.1 hy.1, ih hx.2 hy.2⟩

theorem map_zipL {g : α → β} {f' : β → β → β} {P : α → Prop}
    (hg : ∀ x y, P x → P y → g (f x y) = f' (g x) (g y)) {xs ys : List α}
    (hx : ∀ x ∈ xs, P x) (hy : ∀ y ∈ ys, P y) :
    (zipL f xs ys).map g = zipL f' (xs.map g) (ys.map g) := by
  induction xs generalizing ys with
  | nil => rfl
  | cons x xs ih =>
    cases ys with
    | nil => rfl
    | cons y ys =>
      rw [List.forall_mem_cons] at hx hy
      simp only [zipL, List.map_cons, hg x y hx.1 hy.1, ih hx.2 hy.2]
end

/-! ## Well-formed acts and the implementation's own view of columns -/

-- the scene characters of a unit: `+` and the place holder `.` dropped
def scenes (u : List Char) : List Char := u.filter fun c => c != '+' && c != '.'

/-- columns as `extractAction` cuts them -/
def cols : List Char → List (List Char)
  | [] => []
  | c :: a => scenes (extract (c :: a)).1 :: cols (extract (c :: a)).2
termination_by a => a.length
decreasing_by exact extract_len c a

/-- `(+d)*` -/
inductive IsTail : List Char → Prop
  | nil : IsTail []
  | cons (d : Char) (m : List Char) : d ≠ '+' → IsTail m → IsTail ('+' :: d :: m)

/-- a well-formed act: a sequence of units `c(+d)*` with `c, d ≠ '+'` -/
inductive Wf : List Char → Prop
  | nil : Wf []
  | cons (c : Char) (m a : List Char) : c ≠ '+' → IsTail m → Wf a → Wf (c :: (m ++ a))

theorem scenes_append (a b : List Char) : scenes (a ++ b) = scenes a ++ scenes b :=
  List.filter_append ..

theorem scenes_cons {c : Char} (hc : c ≠ '+') (m : List Char) :
    scenes (c :: m) = position c ++ scenes m := by
  by_cases hd : c = '.' <;> simp [scenes, position, hc, hd]

theorem scenes_plus (m : List Char) : scenes ('+' :: m) = scenes m := rfl

theorem scenes_dot : scenes ['.'] = [] := by decide

theorem scenes_no_dot (u : List Char) : ∀ c ∈ scenes u, c ≠ '.' := by
  intro c hc
  have h := (List.mem_filter.mp hc).2
  rw [Bool.and_eq_true, bne_iff_ne, bne_iff_ne] at h
  exact h.2

theorem IsTail.append {m n : List Char} (hm : IsTail m) (hn : IsTail n) : IsTail (m ++ n) := by
  induction hm with
  | nil => exact hn
  | cons d m hd _ ih => exact IsTail.cons d _ hd ih

theorem Wf.head_ne {a : List Char} (h : Wf a) : ∀ x r, a = x :: r → x ≠ '+' := by
  cases h with
  | nil => exact fun x r h => nomatch h
  | cons c m a hc _ _ => intro x r h; injection h with h1 _; exact h1 ▸ hc

theorem more_append {m : List Char} (hm : IsTail m) (rest : List Char)
    (hr : ∀ x r, rest = x :: r → x ≠ '+') : more (m ++ rest) = (m, rest) := by
  induction hm with
  | nil => exact more.eq_2 _ fun d r e => hr '+' (d :: r) e rfl
  | cons d m hd _ ih => simp only [List.cons_append, more, ih]

theorem extract_unit (c : Char) {m : List Char} (hm : IsTail m) (rest : List Char)
    (hr : ∀ x r, rest = x :: r → x ≠ '+') : extract (c :: (m ++ rest)) = (c :: m, rest) := by
  rw [extract, more_append hm rest hr]

theorem cols_unit (c : Char) {m : List Char} (hm : IsTail m) {rest : List Char} (hw : Wf rest) :
    cols (c :: (m ++ rest)) = scenes (c :: m) :: cols rest := by
  rw [cols, extract_unit c hm rest hw.head_ne]

theorem Wf.extract {b : List Char} (h : Wf b) :
    ((extract b).1 = [] ∨ ∃ c m, (extract b).1 = c :: m ∧ c ≠ '+' ∧ IsTail m) ∧ Wf (extract b).2 := by
  cases h with
  | nil => exact ⟨.inl rfl, .nil⟩
  | cons c m a hc hm ha => rw [extract_unit c hm a ha.head_ne]; exact ⟨.inr ⟨c, m, rfl, hc, hm⟩, ha⟩

theorem zipLong_cols (x : List Char) (xs : List (List Char)) (b : List Char) :
    zipLong (x :: xs) (cols b) = (x ++ scenes (extract b).1) :: zipLong xs (cols (extract b).2) := by
  cases b with
  | nil => simp [zipLong_eq, zipL_nil, cols, extract, scenes]
  | cons c b => rw [cols, zipLong]

theorem piece_unit (c1 : Char) {m1 : List Char} (h1 : c1 ≠ '+') (t1 : IsTail m1)
    (u2 : List Char) (h2 : u2 = [] ∨ ∃ c2 m2, u2 = c2 :: m2 ∧ c2 ≠ '+' ∧ IsTail m2) :
    ∃ c m, piece (c1 :: m1) u2 = c :: m ∧ c ≠ '+' ∧ IsTail m ∧
      scenes (c :: m) = scenes (c1 :: m1) ++ scenes u2 := by
  rw [piece]
  by_cases hd : c1 :: m1 = ['.']
  · rw [if_pos hd, hd, scenes_dot, List.nil_append]
    rcases h2 with rfl | ⟨c2, m2, rfl, hc2, t2⟩
    · exact ⟨'.', [], if_neg (fun h => h rfl), by decide, .nil, scenes_dot⟩
    · exact ⟨c2, m2, if_pos (List.cons_ne_nil _ _), hc2, t2, rfl⟩
  · rw [if_neg hd]
    by_cases h : u2 ≠ [] ∧ u2 ≠ ['.']
    · obtain ⟨c2, m2, rfl, hc2, t2⟩ := h2.resolve_left h.1
      rw [if_pos h]
      exact ⟨c1, m1 ++ '+' :: c2 :: m2, rfl, h1, t1.append (.cons c2 m2 hc2 t2),
        by rw [← List.cons_append, scenes_append, scenes_plus]⟩
    · refine ⟨c1, m1, by rw [if_neg h, List.append_nil], h1, t1, ?_⟩
      have : scenes u2 = [] := by
        by_cases h0 : u2 = []
        · rw [h0]; rfl
        · rw [Decidable.not_not.mp (not_and.mp h h0)]; exact scenes_dot
      rw [this, List.append_nil]

theorem comb_wf_cols {a b : List Char} (ha : Wf a) (hb : Wf b) :
    Wf (comb a b) ∧ cols (comb a b) = zipLong (cols a) (cols b) := by
  induction ha generalizing b with
  | nil => rw [comb, cols, zipLong]; exact ⟨hb, rfl⟩
  | cons c m a' hc hm ha' ih =>
    obtain ⟨hu, hb'⟩ := hb.extract
    obtain ⟨pc, pm, hp, hpc, hpm, hps⟩ := piece_unit c hc hm _ hu
    obtain ⟨hw, hcols⟩ := ih hb'
    rw [comb, extract_unit c hm a' ha'.head_ne, hp, List.cons_append]
    exact ⟨.cons pc pm _ hpc hpm hw,
      by rw [cols_unit pc hpm hw, hps, hcols, cols_unit c hm ha', zipLong_cols]⟩

/-! ## The specification's columns agree with the implementation's on well-formed acts -/

theorem columns_unit (c : Char) (hc : c ≠ '+') {m : List Char} (hm : IsTail m) {rest : List Char}
    (hw : Wf rest) : columns (c :: (m ++ rest)) = scenes (c :: m) :: columns rest := by
  induction hm generalizing c with
  | nil =>
    rw [scenes_cons hc, List.nil_append, columns.eq_3 c rest fun r e => hw.head_ne '+' r e rfl]
    exact congrArg (· :: _) (List.append_nil _).symm
  | cons d m hd _ ih =>
    rw [List.cons_append, List.cons_append, columns, ih d hd, scenes_cons hc, scenes_plus]

theorem cols_eq_columns {a : List Char} (ha : Wf a) : cols a = columns a := by
  induction ha with
  | nil => rw [cols, columns]
  | cons c m a hc hm ha ih => rw [cols_unit c hm ha, columns_unit c hc hm ha, ih]

theorem columns_comb {a b : List Char} (ha : Wf a) (hb : Wf b) :
    columns (comb a b) = zipLong (columns a) (columns b) := by
  have h := comb_wf_cols ha hb
  rw [← cols_eq_columns h.1, h.2, cols_eq_columns ha, cols_eq_columns hb]

theorem forall_mem_combineStory {P : Act → Prop} (hP : ∀ a b, P a → P b → P (comb a b)) {s1 s2 : List Act}
    (h1 : ∀ a ∈ s1, P a) (h2 : ∀ b ∈ s2, P b) : ∀ x ∈ combineStory s1 s2, P x :=
  combineStory_eq ▸ forall_mem_zipL hP h1 h2

theorem combineStory_columns {s1 s2 : List Act} (h1 : ∀ a ∈ s1, Wf a) (h2 : ∀ b ∈ s2, Wf b) :
    (combineStory s1 s2).map columns = zipActs (s1.map columns) (s2.map columns) := by
  rw [combineStory_eq, zipActs_eq]; exact map_zipL (fun _ _ => columns_comb) h1 h2

/-! ## The characters of a merged act -/

theorem more_eq (l : List Char) : (more l).1 ++ (more l).2 = l := by
  fun_induction more l with
  | case1 d rest ih => simp [ih]
  | case2 rest h => rfl

theorem extract_eq (l : List Char) : (extract l).1 ++ (extract l).2 = l := by
  cases l with
  | nil => rfl
  | cons c rest => exact congrArg (c :: ·) (more_eq rest)

theorem mem_ite {α : Type} {x : α} {c : Prop} [Decidable c] {a b : List α} (h : x ∈ if c then a else b) :
    x ∈ a ∨ x ∈ b := by
  split at h
  · exact .inl h
  · exact .inr h

theorem mem_piece {x : Char} {s1 s2 : List Char} (h : x ∈ piece s1 s2) :
    x ∈ s1 ∨ x ∈ s2 ∨ x = '+' ∨ x = '.' := by
  rw [piece] at h
  rcases mem_ite h with h | h
  · rcases mem_ite h with h | h
    · exact .inr (.inl h)
    · exact .inr (.inr (.inr (List.mem_singleton.mp h)))
  · rcases List.mem_append.mp h with h | h
    · exact .inl h
    · rcases mem_ite h with h | h
      · exact (List.mem_cons.mp h).elim (fun e => .inr (.inr (.inl e))) fun h => .inr (.inl h)
      · cases h

theorem mem_comb {x : Char} : ∀ (a b : List Char), x ∈ comb a b →
    x ∈ a ∨ x ∈ b ∨ x = '+' ∨ x = '.' := by
  intro a b
  fun_induction comb a b with
  | case1 b => exact fun h => .inr (.inl h)
  | case2 c a b ih =>
    intro h
    rw [← extract_eq (c :: a), ← extract_eq b]
    simp only [List.mem_append] at h ⊢
    exact h.elim (fun h => (mem_piece h).imp .inl (.imp_left .inl)) fun h => (ih h).imp .inr (.imp_left .inr)

end Shk.Story
