import ShkModel.Lemmas.Period
/-! An auditor whose activation condition depends on nothing and is true (`audits throughout`) opens its period in
the first round, whatever its other expressions mention (the repair a7c68c9 of the "never woken" defect, C02). -/
namespace Shk.Aud
open Shk

/-- the condition of `m` reads no variable and is true -/
structure Unconditional (m : Member) : Prop where
  auditor : m.isAuditor = true
  nodeps : m.cond.deps = []
  holds : ∀ vals, eval vals m.cond = .ok (.sc (.bool true))

theorem Unconditional.condOf {m : Member} (hu : Unconditional m) (s : St) :
    condOf false s m = some (.ok true) := by
  simp [Aud.condOf, hasDeps, hu.nodeps, hu.holds]

theorem Unconditional.visited {m : Member} (hu : Unconditional m) {s : St}
    (ha : (s.aud m.name).auditing = false) : visited false s m = true := by
  simp [Aud.visited, hu.auditor, ha, hu.nodeps]

theorem round_opens (c : Cfg) (hnd : (c.members.map (·.name)).Nodup) (m : Member) (hm : m ∈ c.members)
    (hu : Unconditional m) (ts : Rat) (xs : List Sample) (s : St)
    (h : (round c false ts xs s).abort = none) : ((round c false ts xs s).aud m.name).auditing = true := by
  have hab := abort_none_of (round_aborted c false ts xs s) h
  rw [round_ok hab] at h ⊢
  exact fold_auditing c false ts hnd (List.prefix_refl _) hm _ true
    (fun s1 _ => rvisit_follows c false ts s1 m true (hu.condOf s1) hu.visited) h

/-! ## the loop with the rule before a7c68c9 (for the witness of the defect) -/

def roundWoken (c : Cfg) (final : Bool) (ts : Rat) (samples : List Sample) (s : St) : St :=
  if s.abort.isSome then s else
  c.members.foldl (fun st m => if visitedWoken final st m then visit c final ts st m else st)
    (beginRound c ts samples s)

def stepEvWoken (c : Cfg) (s : St) : Ev → St
  | .mood ts m =>
    if m = s.mood then s else
    let s1 := roundWoken c false ts [] s
    if s1.abort.isSome then s1 else
    roundWoken c false ts [] { s1 with moodStart := some ts, mood := m }
  | .sig ts xs => roundWoken c false ts xs s

def runWoken (c : Cfg) (evs : List Ev) (tEnd : Rat) : St :=
  let s1 := evs.foldl (stepEvWoken c)
    (roundWoken c false 0 [] { ({} : St) with moodStart := some 0, mood := "clear" })
  let s2 := roundWoken c true tEnd [] { s1 with abort := none }
  { s2 with abort := s1.abort.or s2.abort }

/-- `q audits throughout`, `q expects eventually: [x s] > 100` — and the signal never comes -/
def exThroughout : Cfg := { members := [
  { name := "q", cond := .lit (.bool true), assigns := [],
    expect := some (exEventually, .bin .gt (.var exSig) (.lit (.num 100))), watches := [] }] }

end Shk.Aud
