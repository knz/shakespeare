import ShkModel.Lemmas.Story
/-!
# C06 — storylines compile to exactly the timed scenes they denote

Model: `ShkModel/Model/Story.lean` part 1 (`comb` = `combineActs`, `combineStory`, `validate`,
`compile` = `compileV2`, `step`/`run` = the `scene`/`storyline`/`edit` clauses of `parseScript`).
Specification: part 2 of the same file (`columns`, `zipLong`, `zipActs`, `writtenActs`, `validAct`,
`unionCols`, `specTable`, `denote`).  A compiled play and the specification are compared as
*schedules*: per act the ordered list of effects (`mood m`, `perform lines`, `endAct`), each with
the earliest offset at which it may start (`flatten`).

An `edit` is a function applied from outside; the theorems speak of the storyline *after* the edit.
-/
namespace Shk.C06
open Shk.Story

/-- The inductive notion used in the proofs (`Wf`: units `c(+d)*`) is the plain one:
no `+` first, no `+` last, no `++`. -/
theorem wf_iff_written (a : List Char) :
    Wf a ↔ (a.head? ≠ some '+' ∧ a.getLast? ≠ some '+' ∧ noPlusPlus a = true) := wf_iff a

example : Wf "a+b.c+.+d".toList := (wf_iff_written _).mpr (by decide +kernel)

/-- Merging two acts yields, column by column, the scenes of the first followed by those of the
second; the longer act supplies the remaining columns. -/
theorem columns_comb {a b : List Char} (ha : Wf a) (hb : Wf b) :
    columns (comb a b) = zipLong (columns a) (columns b) := Shk.Story.columns_comb ha hb

/-- … and the result is well-formed again, so that any number of clauses can be merged. -/
theorem comb_wf {a b : List Char} (ha : Wf a) (hb : Wf b) : Wf (comb a b) := (comb_wf_cols ha hb).1

/-- Storylines are merged act by act; an act missing on one side is taken from the other. -/
theorem combineStory_denotes {s1 s2 : List Act} (h1 : ∀ a ∈ s1, Wf a) (h2 : ∀ b ∈ s2, Wf b) :
    (combineStory s1 s2).map columns = zipActs (s1.map columns) (s2.map columns) ∧
    ∀ x ∈ combineStory s1 s2, Wf x :=
  ⟨combineStory_columns h1 h2, forall_mem_combineStory (fun _ _ => comb_wf) h1 h2⟩

/-- the column-wise union is associative … -/
theorem zipLong_assoc (xs ys zs : List (List Char)) :
    zipLong (zipLong xs ys) zs = zipLong xs (zipLong ys zs) := by
  rw [zipLong_eq]; exact zipL_assoc List.append_assoc ..

/-- … and so is the act-wise union of storylines. -/
theorem zipActs_assoc (xs ys zs : List (List (List Char))) :
    zipActs (zipActs xs ys) zs = zipActs xs (zipActs ys zs) := by
  rw [zipActs_eq]; exact zipL_assoc zipLong_assoc ..

/-- **The grouping of merges does not matter**: three acts merged left to right (what successive `storyline`
clauses do) or right to left denote the same columns — the same scenes at the same times, in the same order
within a column.  (The merged *texts* may differ in `.` place holders; what is performed does not.) -/
theorem columns_comb_assoc {a b c : List Char} (ha : Wf a) (hb : Wf b) (hc : Wf c) :
    columns (comb (comb a b) c) = columns (comb a (comb b c)) := by
  rw [columns_comb (comb_wf ha hb) hc, columns_comb ha hb, columns_comb ha (comb_wf hb hc), columns_comb hb hc,
    zipLong_assoc]

/-- … and the same for whole storylines. -/
theorem combineStory_assoc {s1 s2 s3 : List Act} (h1 : ∀ a ∈ s1, Wf a) (h2 : ∀ b ∈ s2, Wf b) (h3 : ∀ c ∈ s3, Wf c) :
    (combineStory (combineStory s1 s2) s3).map columns = (combineStory s1 (combineStory s2 s3)).map columns := by
  have h12 := combineStory_denotes h1 h2
  have h23 := combineStory_denotes h2 h3
  rw [(combineStory_denotes h12.2 h3).1, h12.1, (combineStory_denotes h1 h23.2).1, h23.1, zipActs_assoc]

/-- merging with the empty act changes nothing (no clause yet / a clause with fewer acts) -/
theorem comb_nil_columns {a : List Char} (ha : Wf a) :
    columns (comb a []) = columns a ∧ comb [] a = a := by
  refine ⟨?_, by rw [comb]⟩
  rw [columns_comb ha Wf.nil, zipLong_eq]
  exact zipL_nil _

-- the manual's example, and `.`+x
example : comb "..a".toList "a".toList = "a.a".toList := by decide +kernel
example : comb ".+a.".toList "b+.".toList = ".+a+b+..".toList := by decide +kernel
example : columns ".+a+b+..".toList = [['a', 'b'], []] := by decide +kernel

/-- A storyline text is accepted iff every written act (blank-separated, `_` removed) has no `+`
first or last, no `++`, and otherwise only `.` and defined scenes; the result is the written acts. -/
theorem validate_iff (defd : Char → Bool) (text : List Char) (acts : List Act) :
    validate defd text = .ok acts ↔
      (acts = writtenActs text ∧ ∀ a ∈ acts, validAct defd a = true) :=
  Shk.Story.validate_iff defd text acts

/-- Accepted ⇒ the acts have the columns of the text (`clauseCols`), are non-empty and well-formed, contain
neither `_` nor blanks, and every scene character is defined. -/
theorem validate_sound (defd : Char → Bool) (text : List Char) (acts : List Act)
    (h : validate defd text = .ok acts) :
    acts.map columns = clauseCols text ∧
    ∀ a ∈ acts, a ≠ [] ∧ Wf a ∧ ∀ c ∈ a, c ≠ '_' ∧ c ≠ ' ' ∧ (c = '.' ∨ c = '+' ∨ defd c = true) := by
  obtain ⟨rfl, hv⟩ := (Shk.Story.validate_iff _ _ _).mp h
  refine ⟨rfl, fun a ha => ?_⟩
  obtain ⟨hne, hsp, hus⟩ := mem_writtenActs ha
  obtain ⟨hw, hc⟩ := (validAct_iff defd a).mp (hv a ha)
  exact ⟨hne, hw, fun c hca => ⟨fun e => hus (e ▸ hca), fun e => hsp (e ▸ hca), hc c hca⟩⟩

example : validate (fun c => c == 'a' || c == 'b') "a_+b  .+a_ _".toList
    = .ok ["a+b".toList, ".+a".toList] :=
  (validate_iff _ _ _).mpr (by decide +kernel)
example : validate (fun c => c == 'a') "a+".toList = .error .plusEnd := by rfl

/-- **compile_denotes.**  For every scene table, tempo and storyline whose acts are well-formed
over defined scenes (which is what validation guarantees), `compileV2` succeeds and every act of
the compiled play makes happen exactly what its columns denote: column `k` at `k × tempo` — first
`mood starts`, then one line per entailed actor with the scene's actions and `?` marks, then the
last `mood ends` — and the end of the act at (number of columns) × tempo. -/
theorem compile_denotes (tbl : Table) (tempo : Nat) (story : List Act)
    (h : ∀ a ∈ story, Wf a ∧ ∀ c ∈ a, c ≠ '_' ∧ (c = '.' ∨ c = '+' ∨ (tbl c).isSome = true)) :
    ∃ play, compile tbl tempo story = some play ∧
      play.map flatten = denote tbl tempo (story.map columns) :=
  Shk.Story.compile_denotes tbl tempo story h

/-- "the act ends at (number of columns) × tempo" -/
theorem denote_act_end (tbl : Table) (tempo : Nat) (cols : List (List Char)) :
    (denoteAct tbl tempo cols).getLast? = some (cols.length * tempo, Effect.endAct) := by
  rw [denoteAct, denoteCols_getLast?, Nat.zero_add]

/-- Whatever the clauses (definitions, storylines, edits in any order): what `parseScript`
accepted is a storyline to which `compile_denotes` applies. -/
theorem run_valid (cfg : Cfg) (cls : List Clause) (st : St) (h : run cfg cls = some st) :
    ∀ a ∈ st.story, Wf a ∧ ∀ c ∈ a, c ≠ '_' ∧ (c = '.' ∨ c = '+' ∨ (st.table c).isSome = true) :=
  (runFrom_story cfg h nofun).1

/-- A `storyline` clause is accepted iff its written acts are valid over the scenes defined so far … -/
theorem storyline_clause_accepted_iff (cfg : Cfg) (st : St) (t : List Char) :
    (step cfg st (.storyline t)).isSome = true ↔
      ∀ a ∈ writtenActs t, validAct (defd st.table) a = true := by
  constructor
  · intro h
    obtain ⟨st', hs⟩ := Option.isSome_iff_exists.mp h
    exact ((Shk.Story.validate_iff _ _ _).mp (step_storyline hs).2.1).2
  · intro h
    rw [step, (Shk.Story.validate_iff _ _ _).mpr ⟨rfl, h⟩]
    rfl

/-- … and then adds its columns to those of the storyline so far (act by act, column by column,
after the scenes already there). -/
theorem storyline_clause_denotes (cfg : Cfg) (pre : List Clause) (s0 st : St) (t : List Char)
    (h0 : run cfg pre = some s0) (h : step cfg s0 (.storyline t) = some st) :
    st.table = s0.table ∧
    st.story.map columns = zipActs (s0.story.map columns) (clauseCols t) := by
  obtain ⟨ht, hval, hs⟩ := step_storyline h
  rw [hs]
  exact ⟨ht, combineStory_columns (fun a ha => (run_valid cfg pre s0 h0 a ha).1)
    fun a ha => (validate_valid hval a ha).1⟩

/-- An `edit` replaces the storyline by the acts written in the text it yields (if valid). -/
theorem edit_clause_denotes (cfg : Cfg) (s0 st : St) (f : List Char → List Char)
    (h : step cfg s0 (.edit f) = some st) :
    st.table = s0.table ∧ st.story = writtenActs (f (joinSp s0.story)) ∧
    (∀ a ∈ st.story, validAct (defd s0.table) a = true) ∧
    st.story.map columns = clauseCols (f (joinSp s0.story)) := by
  obtain ⟨ht, hval⟩ := step_edit h
  obtain ⟨hs, hv⟩ := (Shk.Story.validate_iff _ _ _).mp hval
  exact ⟨ht, hs, hv, by rw [hs]; rfl⟩

/-- The scene table is what the `scene` clauses say: the entails of a scene in clause order, one
entry per actor of the target (`every <role>` = the actors of that role in cast order), the last
`mood starts` / `mood ends`; a scene is defined iff some clause gave it an actor or a mood. -/
theorem table_spec (cfg : Cfg) (cls : List Clause) (st : St) (h : run cfg cls = some st) :
    st.table = specTable cfg cls :=
  funext (runFrom_table cfg h)

/-- **The play is the column-wise union of the storyline clauses.**  After any accepted prefix
`pre` (which may contain edits) with storyline `s0.story`, further clauses without an edit —
definitions and storylines in any order — compile to the schedule denoted by the union of the
columns of `s0.story` and of the texts of the `storyline` clauses, over the final scene table. -/
theorem play_denotes (cfg : Cfg) (pre cls : List Clause) (s0 st : St)
    (h0 : run cfg pre = some s0) (hne : noEdit cls = true) (h : runFrom cfg s0 cls = some st) :
    ∃ p, compile st.table cfg.tempo st.story = some p ∧
      p.map flatten =
        denote st.table cfg.tempo (unionCols (s0.story.map columns) (storyTexts cls)) := by
  have hs := runFrom_story cfg h (run_valid cfg pre s0 h0)
  obtain ⟨p, e, f⟩ := compile_denotes st.table cfg.tempo st.story hs.1
  exact ⟨p, e, by rw [f, hs.2 hne]⟩

/-- Without any edit: the performed play is determined by the source clauses alone. -/
theorem play_denotes_source (cfg : Cfg) (cls : List Clause) (st : St)
    (hne : noEdit cls = true) (h : run cfg cls = some st) :
    ∃ p, play cfg cls = some p ∧
      p.map flatten = denote (specTable cfg cls) cfg.tempo (unionCols [] (storyTexts cls)) := by
  obtain ⟨p, e, f⟩ := play_denotes cfg [] cls St.init st rfl hne h
  refine ⟨p, by rw [play, h]; exact e, ?_⟩
  rw [f, table_spec cfg cls st h]
  rfl

/-- With an edit: the storyline after the edit, whatever the edit is, united with the clauses
that follow. -/
theorem play_denotes_after_edit (cfg : Cfg) (pre cls : List Clause) (f : List Char → List Char)
    (s0 st : St) (h0 : run cfg (pre ++ [.edit f]) = some s0) (hne : noEdit cls = true)
    (h : runFrom cfg s0 cls = some st) :
    ∃ sp p, run cfg pre = some sp ∧ compile st.table cfg.tempo st.story = some p ∧
      p.map flatten = denote st.table cfg.tempo
        (unionCols (clauseCols (f (joinSp sp.story))) (storyTexts cls)) := by
  obtain ⟨p, e, hf⟩ := play_denotes cfg _ cls s0 st h0 hne h
  rw [run, runFrom_append, Option.bind_eq_some_iff] at h0
  obtain ⟨sp, hsp, hed⟩ := h0
  rw [runFrom_single] at hed
  exact ⟨sp, p, hsp, e, by rw [hf, (edit_clause_denotes cfg sp s0 f hed).2.2.2]⟩

/-! ## Non-vacuity: a concrete script that is accepted, and what it compiles to -/

def exCfg : Cfg := ⟨[("doc", ["cure", "nap"])], [("bob", "doc"), ("al1", "doc"), ("al2", "doc")], 100⟩
def exCls : List Clause :=
  [.entails 'a' (.actor "bob") ["cure", "nap?"], .mood 'a' true "red",
   .entails 'b' (.every "doc") ["nap"], .mood 'c' false "blue",
   .storyline "..a bc".toList, .storyline "a_ b+c c".toList]

example : noEdit exCls = true := by decide
-- the hypotheses of `play_denotes_source` / `run_valid` / `table_spec` are met by `exCls` …
example : (run exCfg exCls).isSome = true := by decide +kernel
-- … those of `play_denotes_after_edit` by `exCls` followed by an edit and one more clause
example : (run exCfg (exCls ++ [.edit fun _ => "a.b c".toList])).isSome = true := by decide +kernel
example : ∀ s0, run exCfg (exCls ++ [.edit fun _ => "a.b c".toList]) = some s0 →
    (runFrom exCfg s0 [.storyline ".c".toList]).isSome = true := by
  intro s0 h
  rw [runFrom_single, storyline_clause_accepted_iff, table_spec exCfg _ s0 h]
  decide +kernel
-- a rejected one: scene `d` is not defined
example : run exCfg (exCls ++ [.storyline "d".toList]) = none := by
  rw [run, runFrom_append]
  cases hr : runFrom exCfg St.init exCls with
  | none => rfl
  | some st =>
    rw [Option.bind_some, runFrom_single, ← Option.not_isSome_iff_eq_none, storyline_clause_accepted_iff,
      table_spec exCfg _ st hr]
    decide +kernel

end Shk.C06
