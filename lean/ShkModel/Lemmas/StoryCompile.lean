import ShkModel.Lemmas.StoryMerge
/-! C06, `compileV2`: unit by unit the loop absorbs the scenes of a column into a group and closes the group behind
the unit; the scenes of the closed group make happen, at the column's time, what the specification says of the column. -/
namespace Shk.Story

/-! ## Storylines the compiler accepts -/

-- what the compiler accepts inside an act: no `_`; `.`, `+` and the scenes of the table
def ValidChars (tbl : Table) (a : List Char) : Prop :=
  ∀ c ∈ a, c ≠ '_' ∧ (c = '.' ∨ c = '+' ∨ (tbl c).isSome = true)

/-- a storyline the compiler accepts: well-formed acts over defined scenes, no `_` -/
def ValidStory (tbl : Table) (story : List Act) : Prop := ∀ a ∈ story, Wf a ∧ ValidChars tbl a

theorem ValidChars.cons_append {tbl : Table} {c : Char} {m a : List Char}
    (h : ValidChars tbl (c :: (m ++ a))) : ValidChars tbl (c :: m) ∧ ValidChars tbl a :=
  ⟨fun x hx => h x (by rw [← List.cons_append]; exact List.mem_append_left _ hx),
   fun x hx => h x (List.mem_cons_of_mem _ (List.mem_append_right _ hx))⟩

theorem ValidChars.mono {t1 t2 : Table} (h : ∀ c, (t1 c).isSome = true → (t2 c).isSome = true)
    {a : List Char} (hv : ValidChars t1 a) : ValidChars t2 a :=
  fun c hc => ⟨(hv c hc).1, (hv c hc).2.imp_right (.imp_right (h c))⟩

theorem ValidStory.mono {t1 t2 : Table} (h : ∀ c, (t1 c).isSome = true → (t2 c).isSome = true)
    {s : List Act} (hv : ValidStory t1 s) : ValidStory t2 s :=
  fun a ha => ⟨(hv a ha).1, (hv a ha).2.mono h⟩

/-! ## One unit -/

/-- the group after the loop has passed the scene characters `l` -/
def absorbL (tbl : Table) (p : Pending) (l : List Char) : Pending :=
  l.foldl (fun p c => absorb p ((specOf tbl c).getD {})) p

theorem absorbL_nil (tbl : Table) (p : Pending) : absorbL tbl p [] = p := rfl
theorem absorbL_cons (tbl : Table) (p : Pending) (c : Char) (l : List Char) :
    absorbL tbl p (c :: l) = absorbL tbl (absorb p ((specOf tbl c).getD {})) l := List.foldl_cons ..

theorem absorb_nop (p : Pending) : absorb p {} = p := by
  cases p; simp [absorb, linesOf]

theorem absorbL_scenes_cons (tbl : Table) (p : Pending) {c : Char} (hc : c ≠ '+') (m : List Char) :
    absorbL tbl p (scenes (c :: m)) = absorbL tbl (absorb p ((specOf tbl c).getD {})) (scenes m) := by
  rw [scenes_cons hc, position]
  split
  · rename_i h; rw [h, specOf, if_pos rfl, Option.getD_some, absorb_nop]; rfl
  · rfl

theorem specOf_eq_some {tbl : Table} {c : Char} (h : c = '.' ∨ c = '+' ∨ (tbl c).isSome = true)
    (hc : c ≠ '+') : ∃ sc, specOf tbl c = some sc := by
  rw [specOf]
  split
  · exact ⟨_, rfl⟩
  · rename_i hd
    exact Option.isSome_iff_exists.mp ((h.resolve_left hd).resolve_left hc)

theorem compileAct_unit (tbl : Table) (tempo : Nat) {m rest : List Char} (hm : IsTail m)
    (hr : ∀ x r, rest = x :: r → x ≠ '+') {c : Char} (hc : c ≠ '+') (hv : ValidChars tbl (c :: m))
    (p : Pending) (now : Nat) :
    compileAct tbl tempo now p (c :: (m ++ rest)) =
      (compileAct tbl tempo (now + tempo) Pending.empty rest).map
        (closeGroup now (absorbL tbl p (scenes (c :: m))) ++ ·) := by
  induction hm generalizing c p with
  | nil =>
    have hcv := hv c List.mem_cons_self
    obtain ⟨sc, hsc⟩ := specOf_eq_some hcv.2 hc
    rw [List.nil_append, compileAct.eq_3 _ _ _ _ _ _ fun r e => hr '+' r e rfl,
      if_neg (not_or.mpr ⟨hc, hcv.1⟩), absorbL_scenes_cons tbl p hc, hsc]
    rfl
  | cons d m hd _ ih =>
    have hcv := hv c List.mem_cons_self
    obtain ⟨sc, hsc⟩ := specOf_eq_some hcv.2 hc
    rw [List.cons_append, List.cons_append, compileAct.eq_2, if_neg (not_or.mpr ⟨hc, hcv.1⟩),
      absorbL_scenes_cons tbl p hc, scenes_plus, hsc]
    exact ih hd (fun x hx => hv x (List.mem_cons_of_mem _ (List.mem_cons_of_mem _ hx))) _

/-! ## The group of a column in the specification's terms -/

/-- the specification's view of a table entry (an undefined scene entails nothing) -/
def specD (tbl : Table) (c : Char) : Spec := (tbl c).getD {}

theorem specOf_nodot (tbl : Table) {c : Char} (h : c ≠ '.') : (specOf tbl c).getD {} = specD tbl c := by
  rw [specOf, if_neg h]; rfl

theorem startOf_eq (tbl : Table) (c : Char) : startOf tbl c = (specD tbl c).moodStart := by
  unfold startOf specD; cases tbl c <;> rfl
theorem endOf_eq (tbl : Table) (c : Char) : endOf tbl c = (specD tbl c).moodEnd := by
  unfold endOf specD; cases tbl c <;> rfl
theorem entailsOf_eq (tbl : Table) (c : Char) : entailsOf tbl c = (specD tbl c).entails := by
  unfold entailsOf specD; cases tbl c <;> rfl

theorem absorbL_spec (tbl : Table) (col : List Char) (hnd : ∀ c ∈ col, c ≠ '.') (p : Pending) :
    absorbL tbl p col =
      ⟨if p.moodStart ≠ "" then p.moodStart else (firstStart tbl col).getD "",
       (lastEnd tbl col).getD p.moodEnd,
       p.lines ++ col.flatMap fun c => linesOf (specD tbl c)⟩ := by
  induction col generalizing p with
  | nil => cases p; simp [absorbL_nil, firstStart, lastEnd]
  | cons c col ih =>
    rw [List.forall_mem_cons] at hnd
    rw [absorbL_cons, specOf_nodot tbl hnd.1, ih hnd.2, Pending.mk.injEq]
    simp only [firstStart, lastEnd, List.map_cons, List.find?_cons, List.reverse_cons, List.find?_append,
      startOf_eq, endOf_eq, absorb, List.flatMap_cons, List.append_assoc, and_true]
    constructor
    · by_cases h1 : p.moodStart = "" <;> by_cases h2 : (specD tbl c).moodStart = "" <;> simp [h1, h2]
    · cases List.find? (fun x => decide (x ≠ "")) (List.map (endOf tbl) col).reverse with
      | some v => rfl
      | none => by_cases h2 : (specD tbl c).moodEnd = "" <;> simp [h2]

theorem filterMap_filter_map {α β γ : Type} {g : α → β} {q : β → Bool} {f : β → Option γ} {h : α → γ}
    {q' : γ → Bool} (hq : ∀ a, q' (h a) = q (g a)) (hf : ∀ a, q (g a) = true → f (g a) = some (h a))
    (l : List α) : ((l.map g).filter q).filterMap f = (l.map h).filter q' := by
  induction l with
  | nil => rfl
  | cons a l ih =>
    rw [List.map_cons, List.map_cons, List.filter_cons, List.filter_cons, hq]
    split
    · rw [List.filterMap_cons_some (hf a ‹_›), ih]
    · exact ih

theorem linesOf_perf (sc : Spec) : (linesOf sc).filterMap linePerf =
    (sc.entails.map (fun e => (e.1, e.2.map splitMark))).filter (fun l => !l.2.isEmpty) :=
  filterMap_filter_map (fun e => by simp [lineOf]) (fun e h => by simpa [linePerf, lineOf] using h) _

theorem linesOf_moods (sc : Spec) : (linesOf sc).flatMap lineMoods = [] := by
  rw [List.flatMap_eq_nil_iff]
  intro l hl
  obtain ⟨e, _, rfl⟩ := List.mem_map.mp (List.mem_filter.mp hl).1
  rfl

theorem col_lines_perf (tbl : Table) (col : List Char) :
    (col.flatMap fun c => linesOf (specD tbl c)).filterMap linePerf = performers tbl col := by
  rw [List.filterMap_flatMap]
  simp only [linesOf_perf, performers, entailsOf_eq]

theorem col_lines_moods (tbl : Table) (col : List Char) :
    (col.flatMap fun c => linesOf (specD tbl c)).flatMap lineMoods = [] := by
  rw [List.flatMap_assoc]
  simp only [linesOf_moods, List.flatMap_eq_nil_iff, implies_true]

/-! ## What the scenes of a closed group make happen, and when -/

theorem effectsOf_moodScene (w : Nat) (m : String) : effectsOf (moodScene w m) = [Effect.mood m] := rfl

theorem effectsOf_lines (w : Nat) (lines : List Line) (hm : lines.flatMap lineMoods = []) :
    effectsOf ⟨w, lines⟩ = if (lines.filterMap linePerf).isEmpty then []
      else [Effect.perform (lines.filterMap linePerf)] := by
  rw [effectsOf, hm]; rfl

theorem moodScene_wait (w : Nat) (m : String) : (moodScene w m).waitUntil = w := rfl

/-- `xs` is reached at `now`, or begins with a scene that waits until then.  What follows `xs` is reached at `now`,
or still at `t` when `xs` is empty: hence `hR` for every `t ≤ now`. -/
theorem flattenFrom_append {now : Nat} {rest : List Scene} {R : Schedule}
    (hR : ∀ t ≤ now, flattenFrom t rest = R) (xs : List Scene) (hw : ∀ s ∈ xs, s.waitUntil ≤ now) :
    ∀ t ≤ now, (t = now ∨ ∀ s ∈ xs.head?, s.waitUntil = now) →
      flattenFrom t (xs ++ rest) = (xs.flatMap effectsOf).map (fun e => (now, e)) ++ R := by
  induction xs with
  | nil => exact fun t ht _ => hR t ht
  | cons s xs ih =>
    intro t ht h
    rw [List.forall_mem_cons] at hw
    have : max t s.waitUntil = now := by
      rcases h with rfl | h
      · exact Nat.max_eq_left hw.1
      · rw [h s rfl]; exact Nat.max_eq_right ht
    rw [List.cons_append, flattenFrom, this, ih hw.2 now (Nat.le_refl _) (.inl rfl), List.flatMap_cons,
      List.map_append, List.append_assoc]

/-- The mood-end scene waits until 0 only behind the scene with the lines, which waits until `now`. -/
theorem closeGroup_wait (now : Nat) (p : Pending) :
    (∀ s ∈ closeGroup now p, s.waitUntil ≤ now) ∧ ∀ s ∈ (closeGroup now p).head?, s.waitUntil = now := by
  constructor
  · intro s hs
    simp only [closeGroup, List.mem_append, List.mem_ite_nil_left, List.mem_ite_nil_right,
      List.mem_singleton] at hs
    rcases hs with (⟨_, rfl⟩ | ⟨_, rfl⟩) | ⟨_, rfl⟩
    · exact Nat.le_refl _
    · exact Nat.le_refl _
    · rw [moodScene_wait]; split
      · exact Nat.le_refl _
      · exact Nat.zero_le _
  · rw [closeGroup]
    by_cases ha : p.moodStart ≠ ""
    · rw [if_pos ha]; rintro s ⟨⟩; rfl
    · rw [if_neg ha, List.nil_append]
      by_cases he : p.lines.isEmpty = true
      · rw [if_pos he, if_pos he, List.nil_append]
        split
        · rintro s ⟨⟩; rfl
        · nofun
      · rw [if_neg he]; rintro s ⟨⟩; rfl

theorem flatMap_ite {α β : Type} (c : Prop) [Decidable c] (x : α) (f : α → List β) :
    (if c then [x] else []).flatMap f = if c then f x else [] := by
  split
  · exact List.flatMap_singleton ..
  · rfl

theorem closeGroup_effects (now : Nat) (p : Pending) (hm : p.lines.flatMap lineMoods = []) :
    (closeGroup now p).flatMap effectsOf =
      (if p.moodStart ≠ "" then [Effect.mood p.moodStart] else []) ++
      (if (p.lines.filterMap linePerf).isEmpty then [] else [Effect.perform (p.lines.filterMap linePerf)]) ++
      (if p.moodEnd ≠ "" then [Effect.mood p.moodEnd] else []) := by
  rw [closeGroup, List.flatMap_append, List.flatMap_append, flatMap_ite, flatMap_ite, effectsOf_moodScene,
    effectsOf_moodScene, ← effectsOf_lines now _ hm]
  congr 2
  -- a scene without lines does nothing, so it does not matter that it is left out
  split
  · rename_i h; rw [List.isEmpty_iff.mp h]; rfl
  · exact List.flatMap_singleton ..

/-- what a column makes happen: first mood start, the performances, last mood end -/
def colEffects (tbl : Table) (col : List Char) : List Effect :=
  (firstStart tbl col).toList.map Effect.mood ++
  (if (performers tbl col).isEmpty then [] else [Effect.perform (performers tbl col)]) ++
  (lastEnd tbl col).toList.map Effect.mood

theorem denoteCols_cons (tbl : Table) (tempo k : Nat) (col : List Char) (rest : List (List Char)) :
    denoteCols tbl tempo k (col :: rest) =
      (colEffects tbl col).map (fun e => (k * tempo, e)) ++ denoteCols tbl tempo (k + 1) rest := by
  rw [denoteCols, colEffects, List.map_append, List.map_append, List.map_map, List.map_map]
  congr 3
  split <;> rfl

theorem denoteCols_getLast? (tbl : Table) (tempo k : Nat) (cs : List (List Char)) :
    (denoteCols tbl tempo k cs).getLast? = some ((k + cs.length) * tempo, Effect.endAct) := by
  induction cs generalizing k with
  | nil => rfl
  | cons c cs ih =>
    rw [denoteCols_cons, List.getLast?_append, ih, Option.some_or, List.length_cons, Nat.add_right_comm]
    rfl

/-- the first non-empty string, as `closeGroup` tests for it -/
theorem toList_find_ne {α : Type} (l : List String) (f : String → α) :
    (l.find? (· ≠ "")).toList.map f =
      if (l.find? (· ≠ "")).getD "" ≠ "" then [f ((l.find? (· ≠ "")).getD "")] else [] := by
  cases h : l.find? (· ≠ "") with
  | none => rfl
  | some m => rw [Option.getD_some, if_pos (by simpa using List.find?_some h)]; rfl

theorem group_effects (tbl : Table) (col : List Char) (hnd : ∀ c ∈ col, c ≠ '.') (now : Nat) :
    (closeGroup now (absorbL tbl Pending.empty col)).flatMap effectsOf = colEffects tbl col := by
  rw [absorbL_spec tbl col hnd, closeGroup_effects _ _ (col_lines_moods tbl col), colEffects, firstStart,
    lastEnd, toList_find_ne, toList_find_ne]
  simp only [Pending.empty, List.nil_append, col_lines_perf]
  rfl

/-! ## Acts and storylines -/

/-- The scenes compiled from column `k` on are entered before `k × tempo` (behind a unit: at the time of that unit's
column) and the first of them waits: hence every `t ≤ k × tempo`. -/
theorem compileAct_denotes (tbl : Table) (tempo : Nat) {a : List Char} (ha : Wf a)
    (hv : ValidChars tbl a) (k : Nat) :
    ∃ scs, compileAct tbl tempo (k * tempo) Pending.empty a = some scs ∧
      ∀ t ≤ k * tempo, flattenFrom t scs = denoteCols tbl tempo k (cols a) := by
  induction ha generalizing k with
  | nil =>
    refine ⟨_, by rw [compileAct], fun t ht => ?_⟩
    rw [flattenFrom, flattenFrom, Nat.max_eq_right ht, cols, denoteCols]
    rfl
  | cons c m a' hc hm ha' ih =>
    obtain ⟨hv1, hv2⟩ := hv.cons_append
    obtain ⟨scs, e, f⟩ := ih hv2 (k + 1)
    rw [compileAct_unit tbl tempo hm ha'.head_ne hc hv1, ← Nat.succ_mul, e]
    refine ⟨_, rfl, fun t ht => ?_⟩
    have hw := closeGroup_wait (k * tempo) (absorbL tbl Pending.empty (scenes (c :: m)))
    rw [flattenFrom_append (fun t ht => f t (Nat.le_trans ht (Nat.mul_le_mul_right _ (Nat.le_succ k))))
        _ hw.1 t ht (.inr hw.2), group_effects tbl _ (scenes_no_dot _), cols_unit c hm ha', denoteCols_cons]

theorem compile_denotes (tbl : Table) (tempo : Nat) (story : List Act) (hv : ValidStory tbl story) :
    ∃ play, compile tbl tempo story = some play ∧
      play.map flatten = denote tbl tempo (story.map columns) := by
  induction story with
  | nil => exact ⟨[], rfl, rfl⟩
  | cons a rest ih =>
    rw [ValidStory, List.forall_mem_cons] at hv
    obtain ⟨play, e, f⟩ := ih hv.2
    obtain ⟨scs, e1, f1⟩ := compileAct_denotes tbl tempo hv.1.1 hv.1.2 0
    rw [Nat.zero_mul] at e1 f1
    refine ⟨scs :: play, by rw [compile, e1, e], ?_⟩
    rw [List.map_cons, f, flatten, f1 0 (Nat.le_refl 0), cols_eq_columns hv.1.1]
    rfl

end Shk.Story
