import ShkModel.Lemmas.AudVals
import ShkModel.Lemmas.Period
/-!
# A variable with one writer (C11): what its clause, a visit of its owner, a round and a run do to it

When one clause `a` of one member is the only assignment to its variable, each of these either leaves the variable
alone or runs `a` once on it while the owner is inside a period (`RanOnce`).
-/
namespace Shk.Owner
open Shk Shk.Aud Shk.AudVals

/-- the assignment of a `computes` clause when everything is in order: it is `setAndActivateVar` -/
theorem assignOne_single (c : Cfg) (ts : Rat) (s : St) (a : Assign) (v : Val)
    (hab : s.abort = none) (hd : hasDeps s a.expr = true) (he : eval s.vals a.expr = .ok v)
    (hm : a.mode = .single) :
    assignOne c ts s a = setVar c s ts (valTyp v) ⟨"", a.target⟩ v true := by
  unfold assignOne
  simp only [hab, hd, he, hm, Option.isSome_none, Bool.false_eq_true, if_false, Bool.not_true]

/-- the assignment of a `collects` clause when everything is in order: one `collectFn` call on the
array the variable holds -/
theorem assignOne_collect (c : Cfg) (ts : Rat) (s : St) (a : Assign) (x : Sc)
    (hab : s.abort = none) (hd : hasDeps s a.expr = true) (he : eval s.vals a.expr = .ok (.sc x))
    (hm : a.mode ≠ .single) :
    assignOne c ts s a =
      match collectStep a.mode a.n (curArray (s.vals ⟨"", a.target⟩)) x with
      | none => { s with abort := some .evalError }
      | some l => setVar c s ts .event ⟨"", a.target⟩ (.arr l) true := by
  unfold assignOne
  simp only [hab, hd, he, Option.isSome_none, Bool.false_eq_true, if_false, Bool.not_true]
  cases hmode : a.mode with
  | single => exact absurd hmode hm
  | _ => rfl

theorem assignOne_collect_vals (c : Cfg) (ts : Rat) (s : St) (a : Assign) (hm : a.mode ≠ .single) :
    (assignOne c ts s a).vals ⟨"", a.target⟩ = s.vals ⟨"", a.target⟩ ∨
      ∃ x l, eval s.vals a.expr = .ok (.sc x) ∧
        collectStep a.mode a.n (curArray (s.vals ⟨"", a.target⟩)) x = some l ∧
        (assignOne c ts s a).vals ⟨"", a.target⟩ = .arr l :=
  assignOne_cases c ts s a (.inl rfl) (fun _ => .inl rfl) (fun _ h _ => absurd h hm)
    (P := fun r => r.vals ⟨"", a.target⟩ = s.vals ⟨"", a.target⟩ ∨ ∃ x l, eval s.vals a.expr = .ok (.sc x) ∧
      collectStep a.mode a.n (curArray (s.vals ⟨"", a.target⟩)) x = some l ∧ r.vals ⟨"", a.target⟩ = .arr l)
    fun x l _ he hl => .inr ⟨x, l, he, hl, by rw [setVar_vals _ _ _ _ _ _ _ rfl, if_pos rfl]⟩

/-- as far as the variable of the clause `a` goes, `s'` is `s`, or `s` after `a` has run once with `owner`
inside a period -/
abbrev RanOnce (c : Cfg) (ts : Rat) (a : Assign) (owner : String) (s s' : St) : Prop :=
  s'.vals ⟨"", a.target⟩ = s.vals ⟨"", a.target⟩ ∨
    ∃ s1 : St, s1.vals ⟨"", a.target⟩ = s.vals ⟨"", a.target⟩ ∧ (s1.aud owner).auditing = true ∧
      s'.vals ⟨"", a.target⟩ = (assignOne c ts s1 a).vals ⟨"", a.target⟩

theorem RanOnce.of_vals {c : Cfg} {ts : Rat} {a : Assign} {owner : String} {s s' s'' : St}
    (h : RanOnce c ts a owner s s') (hv : s''.vals ⟨"", a.target⟩ = s'.vals ⟨"", a.target⟩) :
    RanOnce c ts a owner s s'' := by
  unfold RanOnce; rw [hv]; exact h

section writer
variable (c : Cfg) (final : Bool) (ts : Rat) (s : St) (m0 : Member) (a : Assign) (pre post : List Assign)
  (hpre : ∀ b ∈ pre, (⟨"", b.target⟩ : VarName) ≠ ⟨"", a.target⟩)
  (hpost : ∀ b ∈ post, (⟨"", b.target⟩ : VarName) ≠ ⟨"", a.target⟩)
include hpre hpost

theorem assignAll_writer (owner : String) (haud : (s.aud owner).auditing = true) :
    RanOnce c ts a owner s (assignAll c ts s (pre ++ a :: post)) := by
  refine .inr ⟨assignAll c ts s pre,
    (assignAll_ext (· ≠ (⟨"", a.target⟩ : VarName)) c ts s pre hpre).vals _ (by simp),
    (assignAll_same c ts s pre owner).auditing.trans haud, ?_⟩
  rw [assignAll, List.foldl_append, List.foldl_cons]
  exact (assignAll_ext (· ≠ (⟨"", a.target⟩ : VarName)) c ts _ post hpost).vals _ (by simp)

theorem visit_writer (has : m0.assigns = pre ++ a :: post) :
    RanOnce c ts a m0.name s (visit c final ts s m0) := by
  -- besides its assignments a visit touches no value
  have keep {s s' : St} (h : Ext (fun _ => False) s s') := h.vals ⟨"", a.target⟩ id
  have judged (s1 : St) (ha : (s1.aud m0.name).auditing = true) :
      RanOnce c ts a m0.name s1 (checkExpect (assignAll c ts s1 m0.assigns) ts m0) := by
    rw [has]
    exact (assignAll_writer c ts s1 a pre post hpre hpost m0.name ha).of_vals (keep (checkExpect_ext _ _ ts m0))
  exact visit_cases (.inl rfl) (fun _ _ _ => .inl rfl)
    (fun _ _ _ => judged (startPeriod s m0) (startPeriod_auditing s m0)) (fun _ ha => judged s ha)
    (fun _ ha => (judged s ha).of_vals (keep ((ext_respects _ m0).endPeriod _ ts)))

theorem roundStep_writer (has : m0.assigns = pre ++ a :: post) :
    RanOnce c ts a m0.name s (roundStep c final ts s m0) := by
  unfold roundStep; split
  · exact visit_writer c final ts s m0 a pre post hpre hpost has
  · exact .inl rfl

end writer

theorem roundFold_vals (c : Cfg) (final : Bool) (ts : Rat) (s : St) (ms : List Member)
    (w : VarName) (hw : ∀ m ∈ ms, ∀ a ∈ m.assigns, w ≠ ⟨"", a.target⟩) :
    (ms.foldl (roundStep c final ts) s).vals w = s.vals w :=
  (roundFold_ext (fun v => ∃ m ∈ ms, ∃ a ∈ m.assigns, v = ⟨"", a.target⟩) c final ts s ms
    (fun m hm a ha => ⟨m, hm, a, ha, rfl⟩)).vals w (fun ⟨m, hm, a, ha, e⟩ => hw m hm a ha e)

theorem round_owner (c : Cfg) (final : Bool) (ts : Rat) (samples : List Sample) (s : St)
    (preM postM : List Member) (m0 : Member) (w : VarName) (hc : c.members = preM ++ m0 :: postM)
    (ht : w ≠ ⟨"", "t"⟩) (hm : w ≠ ⟨"", "mood"⟩) (hmt : w ≠ ⟨"", "moodt"⟩)
    (hs : ∀ x ∈ samples, x.v ≠ w)
    (hpreM : ∀ m ∈ preM, ∀ b ∈ m.assigns, w ≠ ⟨"", b.target⟩)
    (hpostM : ∀ m ∈ postM, ∀ b ∈ m.assigns, w ≠ ⟨"", b.target⟩) :
    let s1 := preM.foldl (roundStep c final ts) (beginRound c ts samples s)
    (round c final ts samples s).vals w = s.vals w ∨
      s1.vals w = s.vals w ∧ (round c final ts samples s).vals w = (roundStep c final ts s1 m0).vals w := by
  intro s1
  rw [round_eq]; split
  · exact .inl rfl
  · refine .inr ⟨(roundFold_vals c final ts _ preM w hpreM).trans
      (beginRound_vals c ts samples s w ht hm hmt hs), ?_⟩
    rw [hc, List.foldl_append, List.foldl_cons]
    exact roundFold_vals c final ts _ postM w hpostM

theorem round_writer (c : Cfg) (final : Bool) (ts : Rat) (samples : List Sample) (s : St)
    (preM postM : List Member) (m0 : Member) (a : Assign) (pre post : List Assign)
    (hc : c.members = preM ++ m0 :: postM) (has : m0.assigns = pre ++ a :: post)
    (ht : (⟨"", a.target⟩ : VarName) ≠ ⟨"", "t"⟩) (hmood : (⟨"", a.target⟩ : VarName) ≠ ⟨"", "mood"⟩)
    (hmt : (⟨"", a.target⟩ : VarName) ≠ ⟨"", "moodt"⟩) (hs : ∀ x ∈ samples, x.v ≠ ⟨"", a.target⟩)
    (hpre : ∀ b ∈ pre, (⟨"", b.target⟩ : VarName) ≠ ⟨"", a.target⟩)
    (hpost : ∀ b ∈ post, (⟨"", b.target⟩ : VarName) ≠ ⟨"", a.target⟩)
    (hpreM : ∀ m ∈ preM, ∀ b ∈ m.assigns, (⟨"", a.target⟩ : VarName) ≠ ⟨"", b.target⟩)
    (hpostM : ∀ m ∈ postM, ∀ b ∈ m.assigns, (⟨"", a.target⟩ : VarName) ≠ ⟨"", b.target⟩) :
    RanOnce c ts a m0.name s (round c final ts samples s) := by
  rcases round_owner c final ts samples s preM postM m0 _ hc ht hmood hmt hs hpreM hpostM with h | ⟨h1, h2⟩
  · exact .inl h
  · unfold RanOnce; rw [h2, ← h1]
    exact roundStep_writer c final ts _ m0 a pre post hpre hpost has

theorem run_vals_invariant (P : (VarName → Val) → Prop) (c : Cfg) (evs : List Ev) (tEnd : Rat)
    (h0 : P fun _ => .sc .nil)
    (hround : ∀ final ts samples s, (samples = [] ∨ Ev.sig ts samples ∈ evs) → P s.vals →
      P (round c final ts samples s).vals) : P (run c evs tEnd).vals :=
  Frame.run (R := fun s s' : St => P s.vals → P s'.vals) ⟨fun _ h => h, fun h1 h2 h => h2 (h1 h), fun _ _ h => h⟩
    (fun _ _ _ h => h) c evs (fun final ts xs hx s => hround final ts xs s hx) tEnd h0

end Shk.Owner
