import ShkModel.Lemmas.Template
import ShkModel.Lemmas.Preproc
import ShkModel.Gen.ClauseRe
/-! The byte scanner of `Model/Preproc.lean` against the regenerated `Gen.preprocRe` (`~\w+~`): the regexp matches
exactly where the scanner finds an occurrence and ends where the scanner resumes (`ms_preprocRe`), so the scanner walks
the text as `ReplaceAllStringFunc` does (`scan_findAll`). -/
namespace Shk.C20
open Shk.Preproc Shk.Re

/-- byte positions of the occurrences of a segment list laid out from position `p` -/
def occSpans : List Seg → Nat → List (Nat × Nat)
  | [], _ => []
  | .lit _ :: r, p => occSpans r (p + 1)
  | .occ w :: r, p => (p, p + w.length + 2) :: occSpans r (p + w.length + 2)

/-- `FindAllStringIndex` for a regexp that never matches the empty string (the loop of `ReplaceAllStringFunc`): the
leftmost match at or after `p` — at each start the first way in priority order —, then on from its end -/
def findAll (r : Re) (s : List Char) : Nat → Nat → List (Nat × Nat)
  | 0, _ => []
  | n + 1, p =>
    if s.length ≤ p then [] else
    match (ms s r ⟨p, []⟩).head? with
    | some t => (p, t.pos) :: findAll r s n t.pos
    | none => findAll r s n (p + 1)

end Shk.C20

namespace Shk.PreprocRe
open Shk.Preproc Shk.Re Shk.Tpl Shk.C20

/-- `\w` as `regexp/syntax` tabulates it; `preprocRe_shape` checks it against the regenerated table -/
def WCls : List (Nat × Nat) := [(48, 57), (65, 90), (95, 95), (97, 122)]

theorem wcls_isWord (n : Nat) : inRanges WCls n = isWord n := by
  rw [Bool.eq_iff_iff]
  simp only [inRanges, WCls, isWord, List.any_cons, List.any_nil, Bool.or_false, Bool.or_eq_true,
    Bool.and_eq_true, decide_eq_true_eq, beq_iff_eq]
  constructor
  · rintro (h | h | h | h)
    · exact .inl (.inl (.inl h))
    · exact .inl (.inl (.inr h))
    · exact .inr (Nat.le_antisymm h.2 h.1)
    · exact .inl (.inr h)
  · rintro (((h | h) | h) | h)
    · exact .inl h
    · exact .inr (.inl h)
    · exact .inr (.inr (.inr h))
    · exact .inr (.inr (.inl ⟨Nat.le_of_eq h.symm, Nat.le_of_eq h⟩))

theorem preprocRe_shape : Gen.preprocRe = .cat (.chr 126) (.cat (.plus true (.cls WCls)) (.chr 126)) := by decide +kernel

theorem isWord_ne_tilde (n : Nat) (h : isWord n = true) : (n == 126) = false := by
  cases hn : n == 126 with
  | false => rfl
  | true => rw [beq_iff_eq.mp hn] at h; cases h

def isWordC (ch : Char) : Bool := isWord ch.toNat

theorem matchAt_map (t : List Char) :
    matchAt (t.map Char.toNat) =
      match t.dropWhile isWordC with
      | c :: _ => if c.toNat == tilde && !(t.takeWhile isWordC).isEmpty then some ((t.takeWhile isWordC).map Char.toNat) else none
      | [] => none := by
  unfold matchAt
  rw [List.dropWhile_map, List.takeWhile_map]
  show (match (t.dropWhile isWordC).map Char.toNat with | c :: _ => _ | [] => none) = _
  cases t.dropWhile isWordC with
  | nil => rfl
  | cons c r => simp only [List.map_cons, List.isEmpty_map]; rfl

theorem ms_word_tilde (s : List Char) (q : Nat) (c : Caps) (t : List Char) (hd : s.drop q = t) :
    (ms s (.plus true (.cls WCls)) ⟨q, c⟩).flatMap (ms s (.chr 126)) =
      match matchAt (t.map Char.toNat) with
      | some w => [⟨q + w.length + 1, c⟩]
      | none => [] := by
  have hsplit : s.drop q = t.takeWhile isWordC ++ t.dropWhile isWordC := by rw [hd, List.takeWhile_append_dropWhile]
  have hw : ∀ x ∈ t.takeWhile isWordC, inRanges WCls x.toNat = true := fun x hx => by
    rw [wcls_isWord]; exact (List.all_eq_true.mp List.all_takeWhile) x hx
  have htail : ∀ x ∈ (t.dropWhile isWordC).head?, inRanges WCls x.toNat = false := fun x hx => by
    rw [wcls_isWord]; have := List.head?_dropWhile_not isWordC t; rw [hx] at this; simpa [isWordC] using this
  rw [matchAt_map]
  by_cases hne : t.takeWhile isWordC = []
  · rw [hne] at hsplit
    rw [plus_stop (fun _ => rfl) hsplit htail, hne]
    cases t.dropWhile isWordC <;> simp
  · rw [plus_run (fun _ => rfl) _ hsplit hne hw htail fun k _ hk => by
      show stepChar s _ _ = []
      rw [stepChar_some (getElem?_of_drop_append hsplit hk), isWord_ne_tilde _ ((wcls_isWord _).symm.trans (hw _ (List.getElem_mem hk)))]; rfl]
    show stepChar s _ _ = _
    have hd2 := drop_add_of_drop hsplit
    cases hdw : t.dropWhile isWordC with
    | nil => rw [hdw] at hd2; rw [stepChar_none (getElem?_of_drop_nil hd2)]
    | cons c0 r =>
      rw [hdw] at hd2
      rw [stepChar_some (getElem?_of_drop hd2)]
      by_cases h0 : c0.toNat = 126 <;> simp [h0, hne, tilde]

theorem ms_preprocRe (s : List Char) (p : Nat) (c : Caps) :
    ms s Gen.preprocRe ⟨p, c⟩ =
      match s.drop p with
      | ch :: t =>
        if ch.toNat = tilde then
          match matchAt (t.map Char.toNat) with
          | some w => [⟨p + w.length + 2, c⟩]
          | none => []
        else []
      | [] => [] := by
  rw [preprocRe_shape]
  show (stepChar s (fun m => m == 126) ⟨p, c⟩).flatMap (ms s (.cat (.plus true (.cls WCls)) (.chr 126))) = _
  cases hd : s.drop p with
  | nil => rw [stepChar_none (getElem?_of_drop_nil hd)]; rfl
  | cons ch t =>
    rw [stepChar_some (getElem?_of_drop hd)]
    dsimp only
    by_cases hch : ch.toNat = tilde
    · rw [if_pos (beq_iff_eq.mpr hch), if_pos hch, List.flatMap_singleton]
      show (ms s (.plus true (.cls WCls)) ⟨p + 1, c⟩).flatMap (ms s (.chr 126)) = _
      rw [ms_word_tilde s (p + 1) c t (drop_succ_of_drop hd)]
      cases matchAt (t.map Char.toNat) with
      | none => rfl
      | some w => exact congrArg (fun n => [St.mk n c]) (by omega)
    · rw [if_neg (by simpa using hch), if_neg hch]; rfl

theorem scan_findAll (s : List Char) : ∀ (fuel p : Nat), s.length - p ≤ fuel →
    occSpans (scan ((s.drop p).map Char.toNat)) p = findAll Gen.preprocRe s fuel p := by
  intro fuel
  induction fuel with
  | zero =>
    intro p hf
    rw [List.drop_eq_nil_of_le (Nat.le_of_sub_eq_zero (Nat.le_zero.mp hf))]; rfl
  | succ n ih =>
    intro p hf
    cases hd : s.drop p with
    | nil => exact (if_pos (List.drop_eq_nil_iff.mp hd)).symm
    | cons ch t =>
      have hlt : p < s.length := (List.getElem?_eq_some_iff.mp (getElem?_of_drop hd)).1
      have hlit := ih (p + 1) (by omega)
      rw [drop_succ_of_drop hd] at hlit
      rw [findAll, if_neg (Nat.not_le.mpr hlt), ms_preprocRe, hd, List.map_cons, scan_cons]
      by_cases hch : ch.toNat = tilde
      · simp only [hch, if_true]
        cases hm : matchAt (t.map Char.toNat) with
        | none => exact hlit
        | some w =>
          have hdrop : s.drop (p + w.length + 2) = t.drop (w.length + 1) := by
            rw [← drop_succ_of_drop hd, List.drop_drop]; congr 1; omega
          have hocc := ih (p + w.length + 2) (by omega)
          rw [hdrop, List.map_drop] at hocc
          exact congrArg _ hocc
      · simp only [hch, if_false]
        exact hlit

end Shk.PreprocRe
