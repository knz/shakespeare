import ShkModel.Model.Script
import ShkModel.Lemmas.Paths
import ShkModel.Lemmas.Script
/-!
# C13 — an actor's commands always run in that actor's own directory and environment

Claim level: **partial**.  The theorems are about the generated script (`Model/Script.lean`) and
about the path of the working directory (`Model/Paths.lean`); that bash then does what the script
says (`cd`, assignments exported by `set -a`, `exec >>file`) is trusted and exercised end-to-end by
`vlib/c13.py` (ledger written by every command, invoked directly and through another actor's
prepared script).
-/
namespace Shk.C13
open Shk.Script

/-- Every generated script (any actor, action name, command, `with` text;
action, cleanup or spotlight) consists of known lines only, changes directory exactly once, to the
actor's own working directory, before `TMPDIR=$PWD HOME=$PWD/..`; redirects its output to
`<action>.log` after that iff it is not a spotlight; then sets the actor's `with` text (iff there is
one); and ends with the command. -/
theorem script_layout (a : Actor) (act c : String) (redirect : Bool) :
    layoutOk (script a act c redirect) a.workDir act (envText a.idx a.withText) c (!redirect) = true := by
  cases redirect <;> by_cases h : envText a.idx a.withText = "" <;>
    simp [script, layoutOk, precedes_cons, h, isOther, isCd, isRedirect, isEnv, List.filter]

/-- the specification is not vacuous: it rejects a script that sets TMPDIR/HOME before `cd`, a
spotlight that redirects its output, an action that does not, and a `with` text after the command -/
example : layoutOk [.shebang "s", .setOpts, .tmpHome, .cd "w", .trace, .command "c"] "w" "a" "" "c" true = false := by decide +kernel
example : layoutOk [.shebang "s", .setOpts, .cd "w", .tmpHome, .redirect "a", .trace, .command "c"] "w" "a" "" "c" true = false := by decide +kernel
example : layoutOk [.shebang "s", .setOpts, .cd "w", .tmpHome, .trace, .command "c"] "w" "a" "" "c" false = false := by decide +kernel
example : layoutOk [.shebang "s", .setOpts, .cd "w", .tmpHome, .trace, .command "c", .env "X=1"] "w" "a" "X=1" "c" true = false := by decide +kernel
example : layoutOk [.shebang "s", .setOpts, .cd "w", .tmpHome, .trace, .env "X=1", .command "c"] "w" "a" "X=1" "c" true = true := by decide +kernel

/-- the command is the last line and the `with` text, when there is one, the line before it; in front of them the
four fixed opening lines, and the redirection iff it was asked for -/
theorem script_tail (a : Actor) (act c : String) (redirect : Bool) :
    ∃ front, script a act c redirect =
      front ++ (if envText a.idx a.withText = "" then [] else [Line.env (envText a.idx a.withText)])
        ++ [Line.command c]
      ∧ front.take 4 = [Line.shebang a.shell, Line.setOpts, Line.cd a.workDir, Line.tmpHome]
      ∧ (Line.redirect act ∈ front ↔ redirect = true) := by
  refine ⟨[.shebang a.shell, .setOpts, .cd a.workDir, .tmpHome]
    ++ (if redirect then [.stamp act, .announce a.workDir act, .redirect act] else []) ++ [.trace], ?_, ?_, ?_⟩
  · rfl
  · rfl
  · cases redirect <;> simp

/-- A definition `base* play N role [with w]` creates exactly N actors; the k-th
(k = 0 … N-1) is named `base<k+1>` and its environment text starts with `i=k`. -/
theorem multi_actor_env (c : CastDef) (n : Nat) (h : c.mul = some n) :
    (expandCast c).length = n ∧
    ∀ k, k < n →
      (expandCast c)[k]? = some (c.base ++ toString (k + 1), some k)
      ∧ ∃ rest, envText (some k) c.withText = "i=" ++ toString k ++ rest := by
  constructor
  · simp [expandCast, h]
  · intro k hk
    constructor
    · simp [expandCast, h, hk]
    · unfold envText
      by_cases hw : c.withText = ""
      · exact ⟨"", by simp [hw]⟩
      · exact ⟨"; " ++ c.withText, by simp [hw]⟩

/-- `b* play 3 r with X=1` meets the hypothesis -/
example : (⟨"b", some 3, "r", "X=1"⟩ : CastDef).mul = some 3 := rfl

/-- a single definition `name plays role` creates that one actor, without `i` -/
theorem single_actor_env (c : CastDef) (h : c.mul = none) :
    expandCast c = [(c.base, none)] ∧ envText none c.withText = c.withText := by
  simp [expandCast, h, envText]

/-- For every actor playing a role whose action names are distinct (the parser
guarantees it) and none of which is `_spotlight` or `_cleanup`: the script file of every action holds
that action's command (with redirection). -/
theorem scripts_complete (a : Actor) (r : Role)
    (hu : (r.actions.map Prod.fst).Nodup)
    (hres : ∀ x ∈ r.actions, x.1 ≠ "_spotlight" ∧ x.1 ≠ "_cleanup") :
    ∀ n c, (n, c) ∈ r.actions → fileOf n (written a r) = some (script a n c true) := by
  intro n c h
  have hn := hres (n, c) h
  rw [written, fileOf_append_opt _ hn.2.symm, fileOf_append_opt _ hn.1.symm]
  exact fileOf_map_of_mem (fun x => script a x.1 x.2 true) hu h

/-- a role that meets both hypotheses -/
example : ((⟨[("go", "true"), ("stop", "false")], "tail -f x", "rm x"⟩ : Role).actions.map Prod.fst).Nodup
    ∧ ∀ x ∈ (⟨[("go", "true"), ("stop", "false")], "tail -f x", "rm x"⟩ : Role).actions, x.1 ≠ "_spotlight" ∧ x.1 ≠ "_cleanup" := by decide +kernel

/-- the spotlight and cleanup scripts are written whenever the role defines them (no condition on the
action names: they are written last), the spotlight without redirection, the cleanup with; and
`files` lists one entry per action plus these two — nothing else. -/
theorem role_scripts_written (a : Actor) (r : Role) :
    (r.spotlight ≠ "" → fileOf "_spotlight" (written a r) = some (script a "_spotlight" r.spotlight false))
    ∧ (r.cleanup ≠ "" → fileOf "_cleanup" (written a r) = some (script a "_cleanup" r.cleanup true))
    ∧ (files a r).length = r.actions.length + (if r.spotlight = "" then 0 else 1)
        + (if r.cleanup = "" then 0 else 1) := by
  refine ⟨fun h => ?_, fun h => ?_, ?_⟩
  · rw [written, fileOf_append_opt _ (by decide), if_neg h]
    exact fileOf_concat
  · rw [written, if_neg h]
    exact fileOf_concat
  · rw [files, List.length_append, List.length_append, List.length_map, apply_ite List.length, apply_ite List.length]
    rfl

/-- what the code does with a reserved name (stated outright): an action called `_cleanup` in a role
that has a cleanup command shares the file `actions/_cleanup.sh`; the cleanup is written last, so the
"action" runs the cleanup command, not its own. -/
theorem reserved_name_clobbers :
    fileOf "_cleanup" (written ⟨"a", "/w", "/bin/bash", none, ""⟩ ⟨[("_cleanup", "echo action")], "", "echo cleanup"⟩)
      = some (script ⟨"a", "/w", "/bin/bash", none, ""⟩ "_cleanup" "echo cleanup" true)
    ∧ script ⟨"a", "/w", "/bin/bash", none, ""⟩ "_cleanup" "echo cleanup" true
      ≠ script ⟨"a", "/w", "/bin/bash", none, ""⟩ "_cleanup" "echo action" true := by decide +kernel

/-- **extended roles** — a role that extends another one has every action of its parent and every
action of its own section, and inherits spotlight and cleanup unless it redefines them; hence
(`scripts_complete`) its actors get a script for each of them. -/
theorem extends_inherits (known known' : List (String × Role)) (d : RoleDef) (p : String) (b : Role)
    (hp : d.parent = some p) (hb : lookup p known = some b) (hd : defineRole known d = some known') :
    ∃ r, lookup d.name known' = some r
      ∧ (∀ x ∈ b.actions, x ∈ r.actions) ∧ (∀ x ∈ d.actions, x ∈ r.actions)
      ∧ r.spotlight = d.spotlight.getD b.spotlight ∧ r.cleanup = d.cleanup.getD b.cleanup
      ∧ (∀ k, k ≠ d.name → lookup k known' = lookup k known) := by
  obtain ⟨hnew, b', hb', -, rfl⟩ := defineRole_some hd
  rw [hp] at hb'
  cases hb.symm.trans hb'
  exact ⟨_, lookup_append_new hnew, fun x hx => List.mem_append_left _ hx, fun x hx => List.mem_append_right _ hx,
    rfl, rfl, fun k hk => lookup_append_other (Ne.symm hk)⟩

example : defineRole [("r", ⟨[("ok", "true")], "tail -f x", ""⟩)] ⟨"s", some "r", [("more", "false")], none, some "rm x"⟩
    = some [("r", ⟨[("ok", "true")], "tail -f x", ""⟩), ("s", ⟨[("ok", "true"), ("more", "false")], "tail -f x", "rm x"⟩)] := by
  decide +kernel

/-- every role the parser holds has distinct action names and distinct role names -/
def RolesOK (known : List (String × Role)) : Prop :=
  (known.map Prod.fst).Nodup ∧ ∀ x ∈ known, (x.2.actions.map Prod.fst).Nodup

/-- one `role … end` section keeps that (a second action of one name, own or inherited, and a second role of
one name are rejected) -/
theorem defineRole_ok (known known' : List (String × Role)) (d : RoleDef)
    (hk : RolesOK known) (hd : defineRole known d = some known') : RolesOK known' := by
  obtain ⟨hnew, b, hb, hacts, rfl⟩ := defineRole_some hd
  -- the base role is empty or one of the known ones
  have hbok : (b.actions.map Prod.fst).Nodup := by
    cases hp : d.parent with
    | none => rw [hp] at hb; cases hb; exact List.nodup_nil
    | some p => rw [hp] at hb; exact hk.2 _ (lookup_some_mem hb)
  refine ⟨nodup_append_new hk.1 hnew, fun x hx => ?_⟩
  rcases List.mem_append.mp hx with h | h
  · exact hk.2 x h
  · cases List.mem_singleton.mp h
    exact addActions_nodup hbok hacts

theorem defineRoles_ok (ds : List RoleDef) (known roles : List (String × Role))
    (hk : RolesOK known) (h : defineRoles known ds = some roles) : RolesOK roles := by
  induction ds generalizing known with
  | nil => cases h; exact hk
  | cons d r ih =>
    unfold defineRoles at h
    split at h
    · cases h
    · next k hd => exact ih k (defineRole_ok _ _ _ hk hd) h

/-- The hypothesis of `scripts_complete` holds of every role of every
configuration the parser accepts: whatever the `role` sections are (any number, any `extends` chain), a role
that comes out of them never has two actions of one name, and no two roles share a name. -/
theorem parser_guarantees_distinct_actions (ds : List RoleDef) (roles : List (String × Role))
    (h : defineRoles [] ds = some roles) : RolesOK roles :=
  defineRoles_ok ds [] roles ⟨List.nodup_nil, nofun⟩ h

/-- hence, for every accepted configuration: each actor's script file of each (non-reserved) action of its
role holds that action's command — `scripts_complete` without a hypothesis on the names being distinct. -/
theorem scripts_complete_of_parsed (ds : List RoleDef) (roles : List (String × Role))
    (h : defineRoles [] ds = some roles) (a : Actor) (rn : String) (r : Role) (hr : lookup rn roles = some r)
    (hres : ∀ x ∈ r.actions, x.1 ≠ "_spotlight" ∧ x.1 ≠ "_cleanup") :
    ∀ n c, (n, c) ∈ r.actions → fileOf n (written a r) = some (script a n c true) :=
  scripts_complete a r ((parser_guarantees_distinct_actions ds roles h).2 _ (lookup_some_mem hr)) hres

/-- a redefinition of an inherited action is rejected, not silently merged -/
example : defineRoles [] [⟨"r", none, [("ok", "true")], none, none⟩, ⟨"s", some "r", [("ok", "false")], none, none⟩] = none := by
  decide +kernel
example : defineRoles [] [⟨"r", none, [("ok", "true")], none, none⟩, ⟨"r", none, [], none, none⟩] = none := by
  decide +kernel

open Shk.Paths in
/-- The working directory of an actor is the absolute path
`<run directory>/artifacts/<actor>` whatever the `-o` argument; `TMPDIR=$PWD` is that directory
and `HOME=$PWD/..` is `<run directory>/artifacts`: both inside the run directory. -/
theorem workdir_under_run {α : Type} (latest artifacts actor : α) (cwd : List α) (o : P α) (sub : List α) :
    workDir cwd artifacts (prepareDirs latest o sub).runDir actor
      = ⟨true, (absolutize cwd (prepareDirs latest o sub).runDir).comps ++ [Comp.nm artifacts, Comp.nm actor]⟩
    ∧ clean ⟨true, (workDir cwd artifacts (prepareDirs latest o sub).runDir actor).comps ++ [Comp.up]⟩
      = ⟨true, (absolutize cwd (prepareDirs latest o sub).runDir).comps ++ [Comp.nm artifacts]⟩ := by
  have hw : workDir cwd artifacts (prepareDirs latest o sub).runDir actor
      = absolutize cwd (join (prepareDirs latest o sub).runDir (names [artifacts, actor])) :=
    congrArg (absolutize cwd) (join_join _ _ _)
  refine ⟨hw.trans (absolutize_join_names _ _ _), ?_⟩
  -- `..` after the two names pops the actor
  rw [hw, absolutize_join_names, List.append_assoc, clean_absolutize_append, absolutize_join, absolutize_eq]
  simp [names, step]

/-- a single-actor line (`bob plays doctor`) names its role literally: no plural reading -/
theorem single_line_role_is_literal {β : Type} (c : CastDef) (roles : List (String × β)) (h : c.mul = none) :
    roleOfCast c roles = lookup c.role roles := by
  unfold roleOfCast
  cases hl : lookup c.role roles <;> simp [h]

/-- a role that exists under the name as written is the one meant, also in a multi-actor line: the plural reading
(`bob* play 2 doctors` → `doctor`) is only tried when the name as written is no role -/
theorem exact_role_name_wins {β : Type} (c : CastDef) (roles : List (String × β)) (r : β)
    (h : lookup c.role roles = some r) : roleOfCast c roles = some r := by
  unfold roleOfCast; simp [h]

/-- otherwise a multi-actor line is read as a plural: the role is the name without its final `s` -/
theorem plural_role_name {β : Type} (c : CastDef) (roles : List (String × β)) (n : Nat)
    (h0 : lookup c.role roles = none) (hm : c.mul = some n) :
    roleOfCast c roles = lookup (dropPlural c.role) roles := by
  unfold roleOfCast; simp [h0, hm]

example : roleOfCast ⟨"bob", some 2, "doctors", ""⟩ [("doctor", 7)] = some 7 ∧
    roleOfCast ⟨"bob", none, "doctors", ""⟩ [("doctor", 7)] = (none : Option Nat) := by decide +kernel

end Shk.C13
