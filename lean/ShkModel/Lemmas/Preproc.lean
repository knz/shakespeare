import ShkModel.Model.Preproc
/-! For C20: `scan` yields the one decomposition of a line into `~name~` occurrences and single bytes that takes a match
wherever one starts (`scan_decomp`, `decomp_unique`); a table filled by `define` answers like the plain list of the
definitions searched from the front (`lookup_foldl_define`). -/
namespace Shk.Preproc

/-- a parameter name as `\w+` sees it -/
def WordName (w : Bytes) : Prop := w ≠ [] ∧ ∀ c ∈ w, isWord c = true

/-- a match of `~\w+~` starts at the head of `t` -/
def StartsOcc (t : Bytes) : Prop := ∃ w r, WordName w ∧ t = tilde :: w ++ tilde :: r

/-- `Decomp s segs`: `segs` is the decomposition of `s` that `ReplaceAllStringFunc` walks through —
at every position, if a match starts there it is taken (and scanning resumes behind its closing
`~`), otherwise one byte is copied. -/
def Decomp : Bytes → List Seg → Prop
  | s, [] => s = []
  | s, .occ w :: segs => WordName w ∧ ∃ r, s = tilde :: w ++ tilde :: r ∧ Decomp r segs
  | s, .lit c :: segs => ∃ rest, s = c :: rest ∧ ¬ StartsOcc s ∧ Decomp rest segs

theorem scanAux_skip (l : Bytes) : ∀ (k : Nat), scanAux l k = scanAux (l.drop k) 0 := by
  induction l with
  | nil => intro k; cases k <;> rfl
  | cons x l ih => intro k; cases k with
    | zero => rfl
    | succ k => exact ih k

theorem scan_cons (c : Nat) (rest : Bytes) : scan (c :: rest) =
    match (if c = tilde then matchAt rest else none) with
    | some w => .occ w :: scan (rest.drop (w.length + 1))
    | none => .lit c :: scan rest := by
  show scanAux (c :: rest) 0 = _
  unfold scanAux
  by_cases hc : c = tilde
  · rw [if_pos (beq_iff_eq.mpr hc), if_pos hc]
    cases matchAt rest with
    | none => rfl
    | some w => exact congrArg _ (scanAux_skip rest _)
  · rw [if_neg (by simpa using hc), if_neg hc]; rfl

theorem takeWhile_word (w r : Bytes) (hw : ∀ c ∈ w, isWord c = true) :
    (w ++ tilde :: r).takeWhile isWord = w ∧ (w ++ tilde :: r).dropWhile isWord = tilde :: r := by
  induction w with
  | nil => exact ⟨rfl, rfl⟩
  | cons x w ih =>
    have := ih fun c hc => hw c (List.mem_cons_of_mem _ hc)
    simp [hw x List.mem_cons_self, this]

theorem matchAt_of_word (w r : Bytes) (hw : WordName w) : matchAt (w ++ tilde :: r) = some w := by
  have h := takeWhile_word w r hw.2
  unfold matchAt
  rw [h.2, h.1]
  simp [hw.1]

theorem matchAt_some {t w : Bytes} (h : matchAt t = some w) :
    WordName w ∧ ∃ r, t = w ++ tilde :: r := by
  unfold matchAt at h
  split at h
  · rename_i c r hd
    split at h
    · rename_i hc
      simp only [Bool.and_eq_true, beq_iff_eq, Bool.not_eq_true', List.isEmpty_eq_false_iff] at hc
      cases h
      exact ⟨⟨hc.2, fun x hx => List.all_eq_true.mp List.all_takeWhile x hx⟩, r,
        by rw [← hc.1, ← hd, List.takeWhile_append_dropWhile]⟩
    · cases h
  · cases h

theorem word_split_unique {w w' r r' : Bytes} (hw : ∀ c ∈ w, isWord c = true)
    (hw' : ∀ c ∈ w', isWord c = true) (h : w ++ tilde :: r = w' ++ tilde :: r') : w = w' ∧ r = r' := by
  have a := takeWhile_word w r hw
  have b := takeWhile_word w' r' hw'
  rw [h] at a
  exact ⟨a.1.symm.trans b.1, List.tail_eq_of_cons_eq (a.2.symm.trans b.2)⟩

theorem startsOcc_iff (c : Nat) (rest : Bytes) :
    StartsOcc (c :: rest) ↔ ∃ w, (if c = tilde then matchAt rest else none) = some w := by
  constructor
  · rintro ⟨w, r, hw, he⟩
    obtain ⟨rfl, rfl⟩ := List.cons.inj he
    exact ⟨w, (if_pos rfl).trans (matchAt_of_word w r hw)⟩
  · rintro ⟨w, h⟩
    split at h
    · rename_i hc
      obtain ⟨hw, r, hr⟩ := matchAt_some h
      exact ⟨w, r, hw, by rw [hc, hr]; rfl⟩
    · cases h

theorem scan_cons_occ (w r : Bytes) (hw : WordName w) :
    scan (tilde :: w ++ tilde :: r) = Seg.occ w :: scan r := by
  show scan (tilde :: (w ++ tilde :: r)) = _
  rw [scan_cons, if_pos rfl, matchAt_of_word w r hw]
  show _ :: scan ((w ++ tilde :: r).drop (w.length + 1)) = _
  rw [← List.drop_drop, List.drop_left]; rfl

theorem scan_cons_lit (c : Nat) (rest : Bytes) (h : ¬ StartsOcc (c :: rest)) :
    scan (c :: rest) = Seg.lit c :: scan rest := by
  rw [scan_cons]
  cases hm : (if c = tilde then matchAt rest else none) with
  | none => rfl
  | some w => exact absurd ((startsOcc_iff c rest).mpr ⟨w, hm⟩) h

theorem scan_decomp (s : Bytes) : Decomp s (scan s) := by
  induction hn : s.length using Nat.strongRecOn generalizing s with
  | ind n ih =>
    cases s with
    | nil => rfl
    | cons c rest =>
      by_cases hso : StartsOcc (c :: rest)
      · obtain ⟨w, r, hw, heq⟩ := hso
        rw [heq] at hn ⊢
        rw [scan_cons_occ w r hw]
        exact ⟨hw, r, rfl, ih _ (by rw [← hn, List.length_append, List.length_cons, List.length_cons]; omega) r rfl⟩
      · rw [scan_cons_lit c rest hso]
        exact ⟨rest, rfl, hso, ih _ (hn ▸ Nat.lt_succ_self _) rest rfl⟩

theorem decomp_unique : ∀ (segs : List Seg) (s : Bytes), Decomp s segs → segs = scan s := by
  intro segs
  induction segs with
  | nil => rintro s ⟨⟩; rfl
  | cons sg segs ih =>
    intro s h
    cases sg with
    | lit c =>
      obtain ⟨rest, rfl, hno, hd⟩ := h
      rw [scan_cons_lit c rest hno, ← ih rest hd]
    | occ w =>
      obtain ⟨hw, r, rfl, hd⟩ := h
      rw [scan_cons_occ w r hw, ← ih r hd]

theorem decomp_render : ∀ (segs : List Seg) (s : Bytes), Decomp s segs → segs.flatMap Seg.render = s := by
  intro segs
  induction segs with
  | nil => rintro s ⟨⟩; rfl
  | cons sg segs ih =>
    intro s h
    cases sg with
    | lit c =>
      obtain ⟨rest, rfl, _, hd⟩ := h
      exact congrArg (c :: ·) (ih rest hd)
    | occ w =>
      obtain ⟨_, r, rfl, hd⟩ := h
      simp [List.flatMap_cons, Seg.render, ih r hd]

theorem lookup_append (a b : Table) (n : Bytes) :
    lookup (a ++ b) n = match lookup a n with
      | some v => some v
      | none => lookup b n := by
  induction a with
  | nil => rfl
  | cons p a ih =>
    obtain ⟨k, v⟩ := p
    simp only [List.cons_append, lookup]
    split
    · rfl
    · exact ih

theorem lookup_define (t : Table) (n v m : Bytes) :
    lookup (define t n v) m = lookup (t ++ [(n, v)]) m := by
  unfold define
  cases h : lookup t n with
  | none => rfl
  | some x =>
    rw [lookup_append]
    cases hm : lookup t m with
    | some y => rfl
    | none =>
      show none = if n = m then some v else none
      rw [if_neg fun hnm => by rw [hnm, hm] at h; cases h]

theorem lookup_congr_append {a a' : Table} (b : Table) (m : Bytes)
    (h : lookup a m = lookup a' m) : lookup (a ++ b) m = lookup (a' ++ b) m := by
  rw [lookup_append, lookup_append, h]

/-- definitions made one after the other (`-D` arguments split by `g`, or `parameter` clauses) answer
like the entries appended in that order -/
theorem lookup_foldl_define {α : Type} (g : α → Bytes × Bytes) (l : List α) :
    ∀ (t : Table) (m : Bytes),
      lookup (l.foldl (fun t d => define t (g d).1 (g d).2) t) m = lookup (t ++ l.map g) m := by
  induction l with
  | nil => intro t m; rw [List.map_nil, List.append_nil]; rfl
  | cons d l ih =>
    intro t m
    rw [List.foldl_cons, ih, lookup_congr_append _ m (lookup_define t (g d).1 (g d).2 m),
      List.append_assoc]; rfl

end Shk.Preproc
