import ShkModel.Lemmas.StopperSpec
import ShkModel.Lemmas.StopperRun
/-!
# C15 — the stopper drains tasks, then workers, then closers, and refuses late work

Model: `ShkModel/Model/Stopper.lean` (one atomic step per critical section of `stopper.go`, any number of
concurrent calls, blocking as guards, a monotone log).  `Reach cap s` = "`s` is reachable by some interleaving
of some number of RunTask / RunAsyncTask / RunLimitedAsyncTask / RunWorker / AddCloser / WithCancelOnQuiesce /
WithCancelOnStop / Quiesce / Stop calls (and of calls of the returned cancel functions)".  The theorems below
are about an arbitrary reachable state (or a step from one), hence about every interleaving and any number of calls;
`refused_is_final` needs no reachability, and `late_worker_runs_after_stopped` exhibits one run.

`logOk` is the executable specification that the check also evaluates on logs recorded from the real `Stopper`.
A log entry carries the three channel states (`q` quiescer, `s` stopper, `d` stopped) and the semaphore
occupancy `n` seen when it was appended.
-/
namespace Shk.C15
open Shk.Stopper

/-- **The specification holds of the model**: the log of every reachable state satisfies `logOk`. -/
theorem reach_logOk {cap : Nat} {s : St} (h : Reach cap s) : logOk cap s.log = true :=
  logOk_reach h

/-! ## 1. Late work is refused, and a refused start never runs -/

/-- A call that returned ErrUnavailable (1) or ErrThrottled (2) never has its body started — in any order
of the two entries. -/
theorem refused_never_runs {cap : Nat} {s : St} (h : Reach cap s) (i : Nat)
    (hr : hasV s.log .ret i 1 = true ∨ hasV s.log .ret i 2 = true) : has s.log .bodyStart i = false := by
  have hret : has s.log .ret i = true := by
    rcases hr with hr | hr <;> exact has_of_hasV hr
  obtain ⟨e, he, hk, hid⟩ := exists_of_has hret
  obtain ⟨t, ht, _, ti⟩ := thread_of (evkind_reach h) (threads_reach h) he (by rw [hk]; decide)
  rw [hid] at ht ti
  rw [ti.bs]
  have hv : retCode t.pc = 1 ∨ retCode t.pc = 2 := by
    rcases hr with hr | hr
    · exact Or.inl (ti.retv 1 hr).symm
    · exact Or.inr (ti.retv 2 hr).symm
  obtain ⟨kind, pc, ret⟩ := t
  -- a body has begun only at `running`, `ended`, `released`, `done`, and there the call returns 0
  cases pc <;> first | exact Bool.and_false _ | exact absurd hv (show ¬ (0 = 1 ∨ 0 = 2) by decide)

/-- A task call that begins after the quiescer channel was seen closed is never accepted: no body, no nil. -/
theorem late_work_refused {cap : Nat} {s : St} (h : Reach cap s) (i : Nat) (t : Thread)
    (ht : s.threads[i]? = some t) (hq : callQ s.log i = true) : wasAccepted t = false ∧ has s.log .bodyStart i = false := by
  have I := inv_reach h
  have ha : wasAccepted t = false := by
    cases hw : wasAccepted t
    · rfl
    · rw [I.callQ_false ht hw] at hq; cases hq
  refine ⟨ha, ?_⟩
  rw [(I.thr i t ht).bs]
  exact Bool.eq_false_iff.mpr fun hs => Bool.noConfusion (ha.symm.trans (wasAccepted_of_started hs))

/-- A refusal is final: a call refused with ErrUnavailable (`failU`) or ErrThrottled (`failT`) has no further step but its
return. -/
theorem refused_is_final (s : St) (i : Nat) (t : Thread) (hp : t.pc = .failU ∨ t.pc = .failT) :
    goStep s i t = none ∧ altStep s i t = none := by
  obtain ⟨kind, pc, ret⟩ := t
  rcases hp with hp | hp <;> simp only [] at hp <;> subst hp <;> cases kind <;> simp [goStep, altStep]

/-! ## 2. Accepted tasks finish before the stop channel closes -/

/-- Stop channel closed ⇒ quiescing, `numTasks = 0`, no call is between `runPrelude` and `runPostlude`. -/
theorem stop_closed_drained {cap : Nat} {s : St} (h : Reach cap s) (hc : s.sClosed = true) :
    s.quiescing = true ∧ s.numTasks = 0 ∧ ∀ (i : Nat) (t : Thread), s.threads[i]? = some t → inTask t = false := by
  have I := inv_reach h
  exact ⟨I.ph.s_q hc, I.ph.s_tasks hc, fun i t ht => I.cnt.not_inTask (I.ph.s_tasks hc) ht⟩

/-- On the log: whenever an entry sees the stop channel closed, every body that began before it has ended and
every task call that returned nil before it has run its body to the end; and no body starts or ends with the
stop channel closed. -/
theorem tasks_end_before_stop_closes {cap : Nat} {s : St} (h : Reach cap s) {pre post : List Ev} {e : Ev}
    (hl : s.log = pre ++ e :: post) :
    (e.s = true → drained pre = true) ∧ ((e.k = .bodyStart ∨ e.k = .bodyEnd) → e.s = false) := by
  obtain ⟨hg, hko⟩ := reach_entry h hl
  refine ⟨(globalOk_iff.mp hg).2.1, fun hk => ?_⟩
  rcases hk with hk | hk <;> simp [kindOk, hk] at hko <;> simp [hko]

/-! ## 3. The phases happen in order -/

/-- The phase markers of a reachable log (0 quiesceClosed, 1 tasksDrained, 2 stopClosed, 3 workersDone,
4 stoppedClosed) are an initial segment of `[0,1,2,3,4]`: each at most once, in this order; the closers are
called in phase 4 (see `closers_exactly_once`). -/
theorem phase_order {cap : Nat} {s : St} (h : Reach cap s) : markSeq s.log = [0, 1, 2, 3, 4].take (phase s) :=
  marks_reach h

/-- the channels close in the order quiescer, stopper, stopped — in the state and in every log entry, and what an
entry sees never goes back -/
theorem channels_nested {cap : Nat} {s : St} (h : Reach cap s) :
    (s.dClosed = true → s.sClosed = true) ∧ (s.sClosed = true → s.quiescing = true) ∧
    ∀ pre post e, s.log = pre ++ e :: post → flagsOk pre e = true := by
  have I := inv_reach h
  exact ⟨I.ph.d_s, I.ph.s_q, fun pre post e hl => (globalOk_iff.mp (reach_entry h hl).1).1⟩

/-! ## 4. Workers are awaited -/

/-- Whenever an entry sees `stopped` closed, every worker whose RunWorker call was seen to return while the stop
channel was still open has returned.  (A RunWorker issued after `stop.Wait()` has returned cannot be awaited by
the code; see `late_worker_runs_after_stopped`.) -/
theorem workers_done_before_stopped {cap : Nat} {s : St} (h : Reach cap s) {pre post : List Ev} {e : Ev}
    (hl : s.log = pre ++ e :: post) (hd : e.d = true) : workersDone pre = true :=
  ((globalOk_iff.mp (reach_entry h hl).1).2.2.1 hd).1

/-- in the state: past `stop.Wait()` the WaitGroup count was zero, and every call of the wait group has called Done -/
theorem wait_passed_only_at_zero {cap : Nat} {s s' : St} {i : Nat} {a : Act} (h : Reach cap s)
    (hs : step s i a = some s') (h1 : s.sp.rank < 5) (h2 : 5 ≤ s'.sp.rank) :
    s.wg = 0 ∧ ∀ (j : Nat) (t : Thread), s.threads[j]? = some t → inWg t = false := by
  obtain ⟨_, _, r⟩ := step_rule hs
  have hw := (r.gate h1 h2).2
  exact ⟨hw, fun j t ht => (cnt_reach h).not_inWg hw ht⟩

/-! ## 5. Closers are called exactly once, after the workers, before `stopped` -/

/-- At most once; with the stop channel closed; a closer whose AddCloser had already returned is called after
the workers and before `stopped` closes; and whenever an entry sees `stopped` closed, every closer whose
AddCloser has returned has been called (so a closer added later was called before its AddCloser returned). -/
theorem closers_exactly_once {cap : Nat} {s : St} (h : Reach cap s) {pre post : List Ev} {e : Ev}
    (hl : s.log = pre ++ e :: post) :
    (e.k = .closer → has pre .closer e.id = false ∧ e.s = true ∧
        (has pre .ret e.id = true → e.d = false ∧ workersDone pre = true)) ∧
    (e.d = true → closersDone pre = true) := by
  obtain ⟨hg, hko⟩ := reach_entry h hl
  refine ⟨fun hk => ?_, fun hd => ((globalOk_iff.mp hg).2.2.1 hd).2⟩
  simp only [kindOk, hk, Bool.and_eq_true, bimp, Bool.not_eq_true'] at hko
  obtain ⟨-, ⟨⟨-, hnew⟩, hs⟩, hret⟩ := hko
  exact ⟨hnew, hs, hret⟩

/-- in the state: the registered closers that have been called are exactly those the effective Stop has passed, which
is all of them once `stopped` is closed, and none is registered twice -/
theorem closers_called_state {cap : Nat} {s : St} (h : Reach cap s) :
    (∀ c ∈ s.closers, has s.log .closer c = decide (c ∈ calledPrefix s)) ∧
    (s.dClosed = true → calledPrefix s = s.closers) ∧ s.closers.Nodup := by
  have I := inv_reach h
  exact ⟨I.kinv.reg, fun hd => (I.dfin hd).2, I.lists.nodup⟩

/-! ## 6. Stop is idempotent; Stop and Quiesce return only when their work is done -/

/-- at most one Stop call is effective, none before `stopCalled` is set; the others return without waiting -/
theorem stop_idempotent {cap : Nat} {s : St} (h : Reach cap s) :
    s.threads.countP activeStop ≤ 1 ∧ (s.stopCalled = false → s.threads.countP activeStop = 0) ∧
    ∀ (i : Nat) (t : Thread), s.threads[i]? = some t → t.kind = .stop → t.pc = .init → s.stopCalled = true →
      ∃ s', step s i .go = some s' ∧ s'.sp = s.sp ∧ s'.log = s.log ∧ s'.threads[i]? = some { t with pc := .sNoop } := by
  have A := active_reach h
  refine ⟨A.1, A.2, ?_⟩
  intro i t ht hk hp hc
  have hl := lt_length_of_getElem? ht
  obtain ⟨kind, pc, ret⟩ := t
  simp only [] at hk hp; subst hk; subst hp
  exact ⟨s.upd i ⟨.stop, .sNoop, ret⟩ [], by simp [step, ht, goStep, hc], rfl, by simp [St.upd], by simp [St.upd, hl]⟩

/-- the effective Stop returns only after `stopped` is closed -/
theorem stop_returns_after_stopped {cap : Nat} {s : St} (h : Reach cap s) (i : Nat) (t : Thread)
    (ht : s.threads[i]? = some t) (hk : t.kind = .stop) (hp : t.pc = .done) : s.dClosed = true :=
  ((inv_reach h).stable i t ht).sd hk hp

/-- Quiesce returns only when quiescing with no task left -/
theorem quiesce_returns_drained {cap : Nat} {s : St} (h : Reach cap s) (i : Nat) (t : Thread)
    (ht : s.threads[i]? = some t) (hk : t.kind = .quiesce) (hp : t.pc = .done) :
    s.quiescing = true ∧ s.numTasks = 0 :=
  ⟨((inv_reach h).stable i t ht).qq hk (Or.inr hp), ((inv_reach h).stable i t ht).qd hk hp⟩

/-! ## 7. A limited task holds its slot exactly while it runs -/

/-- the occupancy of the semaphore is the number of limited-task calls between their acquire and their release
(the body lies strictly inside), never above capacity; `numTasks` and the WaitGroup count likewise count calls -/
theorem sem_held_iff_running {cap : Nat} {s : St} (h : Reach cap s) :
    s.sem = s.threads.countP holdsSem ∧ s.sem ≤ cap ∧
    s.numTasks = s.threads.countP inTask ∧ s.wg = s.threads.countP inWg ∧
    (∀ t, limRunning t = true → holdsSem t = true) := by
  have I := inv_reach h
  exact ⟨I.cnt.sem, I.capEq ▸ I.ph.semcap, I.cnt.tasks, I.cnt.wg, fun _ => holdsSem_of_limRunning⟩

/-- both directions of "exactly while it runs": the limited bodies in progress are no more than the occupied slots, and
the occupancy is the number of calls between their acquire and the release that follows their body (none before the
acquire, after a refusal `ErrUnavailable` / `ErrThrottled`, or after the release) -/
theorem slot_exactly_around_the_body {cap : Nat} {s : St} (h : Reach cap s) :
    s.threads.countP limRunning ≤ s.sem ∧
    s.sem = s.threads.countP holdsSem ∧
    (∀ t : Thread, holdsSem t = true ↔
      (t.kind.isLimited = true ∧
        (t.pc = .semHeld ∨ t.pc = .refHold ∨ t.pc = .accepted ∨ t.pc = .running ∨ t.pc = .ended))) := by
  have I := inv_reach h
  refine ⟨?_, I.cnt.sem, ?_⟩
  · rw [I.cnt.sem]
    exact List.countP_mono_left fun t _ => holdsSem_of_limRunning
  · intro t
    obtain ⟨kind, pc, ret⟩ := t
    cases pc <;> simp [holdsSem]

/-- on the log: one slot per limited body in progress (the entry's own body included); after the drain only calls
that have not returned hold slots -/
theorem sem_on_log {cap : Nat} {s : St} (h : Reach cap s) {pre post : List Ev} {e : Ev}
    (hl : s.log = pre ++ e :: post) :
    e.n ≤ cap ∧ cnt (pre ++ [e]) .bodyStart ≤ cnt pre .bodyEnd + e.n ∧ (e.s = true → cnt pre .ret + e.n ≤ cnt pre .call) :=
  (globalOk_iff.mp (reach_entry h hl).1).2.2.2

/-! ## 8. WithCancelOnQuiesce / WithCancelOnStop -/

/-- once the quiescer (stop) channel is closed, every context handed out by WithCancelOnQuiesce
(WithCancelOnStop) has been cancelled -/
theorem cancel_fires {cap : Nat} {s : St} (h : Reach cap s) (i : Nat) (t : Thread) (ht : s.threads[i]? = some t)
    (hp : t.pc ≠ .init) :
    (t.kind = .wcq → s.quiescing = true → has s.log .cancelled i = true) ∧
    (t.kind = .wcs → s.sClosed = true → has s.log .cancelled i = true) :=
  ((inv_reach h).cancel i t ht).fires hp

/-! ## Non-vacuity and the limit of the worker clause -/

/-- `demo` (Lemmas/StopperRun.lean): an async task, a limited task, a worker, a closer, both
cancel contexts, Stop racing with a late task, a late closer.  It runs, ends stopped, its log satisfies `logOk`,
carries all five markers in order, the late task was refused and never ran, both closers were called, both
contexts cancelled. -/
example : Reach 1 demoEnd ∧ demoEnd.dClosed = true ∧ logOk 1 demoEnd.log = true ∧
    markSeq demoEnd.log = [0, 1, 2, 3, 4] ∧ hasV demoEnd.log .ret 7 1 = true ∧ has demoEnd.log .bodyStart 7 = false ∧
    has demoEnd.log .closer 3 = true ∧ has demoEnd.log .closer 8 = true ∧ has demoEnd.log .cancelled 4 = true ∧
    has demoEnd.log .cancelled 5 = true :=
  ⟨reach_run Reach.init demo (Option.some_get demo_runs).symm, by decide +kernel⟩

/-- The worker clause cannot be stated for every worker: a RunWorker issued after the stopper has stopped is
started all the same, and runs after `stopped` is closed (the code has no guard in RunWorker). -/
theorem late_worker_runs_after_stopped :
    ∃ s, Reach 1 s ∧ ∃ e ∈ s.log, e.k = .wStart ∧ e.d = true :=
  ⟨lateEnd, reach_run Reach.init lateWorker (Option.some_get late_runs).symm, by decide +kernel⟩

end Shk.C15
