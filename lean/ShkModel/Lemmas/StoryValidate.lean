import ShkModel.Lemmas.StoryMerge
/-! C06, `validateStoryLine`: the check loop decides `validAct` on the written acts of a text, and the valid acts are
the well-formed ones over `.` and defined scenes.  Loop and units both go character by character through `PlusOk`. -/
namespace Shk.Story

/-! ## The `+` rules, character by character -/

/-- every `+` is followed by a character other than `+` -/
def PlusOk (l : List Char) : Prop := l.getLast? ≠ some '+' ∧ noPlusPlus l = true

theorem plusOk_nil : PlusOk [] := ⟨nofun, rfl⟩

theorem plusOk_cons {x : Char} {r : List Char} :
    PlusOk (x :: r) ↔ (x = '+' → r ≠ [] ∧ r.head? ≠ some '+') ∧ PlusOk r := by
  cases r with
  | nil => simp [PlusOk, noPlusPlus]
  | cons y r =>
    rw [PlusOk, PlusOk, List.getLast?_cons_cons]
    by_cases hx : x = '+'
    · subst hx
      by_cases hy : y = '+'
      · subst hy; simp [noPlusPlus]
      · rw [noPlusPlus.eq_2 _ _ fun _ _ h => hy (List.cons.inj h).1]; simp [hy]
    · rw [noPlusPlus.eq_2 _ _ fun _ h _ => hx h]; simp [hx]

theorem validAct_eq_true (defd : Char → Bool) (a : List Char) :
    validAct defd a = true ↔
      a.head? ≠ some '+' ∧ PlusOk a ∧ ∀ c ∈ a, c = '.' ∨ c = '+' ∨ defd c = true := by
  simp only [validAct, PlusOk, Bool.and_eq_true, bne_iff_ne, ne_eq, List.all_eq_true, Bool.or_eq_true,
    beq_iff_eq, and_assoc, or_assoc]

/-! ## The check loop -/

theorem ite_some_eq_none {α : Type} {p : Prop} [Decidable p] {e : α} {x : Option α} :
    (if p then some e else x) = none ↔ ¬p ∧ x = none := by
  split <;> simp [*]

theorem checkFrom_plus (defd : Char → Bool) (prev : Option Char) (rest : List Char) :
    checkFrom defd prev ('+' :: rest) = none ↔
      prev ≠ none ∧ rest ≠ [] ∧ prev ≠ some '+' ∧ checkFrom defd (some '+') rest = none := by
  rw [checkFrom, if_neg (by decide), if_pos rfl, ite_some_eq_none, ite_some_eq_none, ite_some_eq_none]

theorem checkFrom_char (defd : Char → Bool) (prev : Option Char) {c : Char} (hc : c ≠ '+')
    (rest : List Char) :
    checkFrom defd prev (c :: rest) = none ↔
      (c = ' ' ∨ c = '.' ∨ c = '+' ∨ defd c = true) ∧ checkFrom defd (some c) rest = none := by
  rw [checkFrom]
  by_cases h1 : c = ' ' ∨ c = '.'
  · rw [if_pos h1]; exact (and_iff_right (or_assoc.mp (.inl h1))).symm
  · rw [if_neg h1, if_neg hc]
    by_cases h2 : defd c = true
    · rw [if_pos h2]; exact (and_iff_right (.inr (.inr (.inr h2)))).symm
    · rw [if_neg h2]; simp [not_or.mp h1, hc, h2]

theorem checkFrom_eq_none (defd : Char → Bool) (l : List Char) (prev : Option Char) :
    checkFrom defd prev l = none ↔
      ((prev = none ∨ prev = some '+') → l.head? ≠ some '+') ∧ PlusOk l ∧
      ∀ c ∈ l, c = ' ' ∨ c = '.' ∨ c = '+' ∨ defd c = true := by
  induction l generalizing prev with
  | nil => simp [checkFrom, plusOk_nil]
  | cons c rest ih =>
    by_cases hp : c = '+'
    · subst hp
      rw [checkFrom_plus, ih, plusOk_cons, List.forall_mem_cons]
      constructor
      · rintro ⟨h1, h2, h3, h4, h5, h6⟩
        exact ⟨fun h => (h.elim h1 h3).elim, ⟨fun _ => ⟨h2, h4 (.inr rfl)⟩, h5⟩, .inr (.inr (.inl rfl)), h6⟩
      · rintro ⟨h1, ⟨h2, h5⟩, _, h6⟩
        exact ⟨fun e => h1 (.inl e) rfl, (h2 rfl).1, fun e => h1 (.inr e) rfl, fun _ => (h2 rfl).2, h5, h6⟩
    · rw [checkFrom_char defd prev hp, ih, plusOk_cons, List.forall_mem_cons]
      constructor
      · rintro ⟨h1, _, h3, h4⟩
        exact ⟨fun _ e => hp (Option.some.inj e), ⟨fun e => absurd e hp, h3⟩, h1, h4⟩
      · rintro ⟨_, ⟨_, h3⟩, h1, h4⟩
        exact ⟨h1, fun h => (h.elim nofun fun e => hp (Option.some.inj e)).elim, h3, h4⟩

theorem checkFrom_none_iff (defd : Char → Bool) (a : List Char) (hsp : ' ' ∉ a) :
    checkFrom defd none a = none ↔ validAct defd a = true := by
  rw [checkFrom_eq_none, validAct_eq_true]
  constructor
  · rintro ⟨h0, h1, h2⟩
    exact ⟨h0 (.inl rfl), h1, fun c hc => (h2 c hc).resolve_left fun e => hsp (e ▸ hc)⟩
  · rintro ⟨h0, h1, h2⟩
    exact ⟨fun _ => h0, h1, fun c hc => .inr (h2 c hc)⟩

theorem validateParts_ok (defd : Char → Bool) (ps : List (List Char)) (acts : List Act) :
    validateParts defd ps = .ok acts ↔
      (acts = (ps.map cleanPart).filter (· ≠ []) ∧ ∀ a ∈ acts, checkFrom defd none a = none) := by
  induction ps generalizing acts with
  | nil => exact ⟨fun h => by cases h; exact ⟨rfl, nofun⟩, fun h => h.1 ▸ rfl⟩
  | cons p ps ih =>
    rw [validateParts, List.map_cons]
    by_cases he : cleanPart p = []
    · rw [if_pos he, ih, List.filter_cons_of_neg (by simpa using he)]
    · rw [if_neg he, List.filter_cons_of_pos (by simpa using he)]
      constructor
      · intro h
        split at h
        · cases h
        · rename_i hc
          split at h
          · rename_i acts' hv
            cases h
            obtain ⟨rfl, h⟩ := (ih _).mp hv
            exact ⟨rfl, List.forall_mem_cons.mpr ⟨hc, h⟩⟩
          · cases h
      · rintro ⟨rfl, h⟩
        rw [List.forall_mem_cons] at h
        rw [h.1, (ih _).mpr ⟨rfl, h.2⟩]

/-! ## The written acts of a text -/

theorem splitSp_no_space (l : List Char) : ∀ p ∈ splitSp l, ' ' ∉ p := by
  induction l with
  | nil => exact List.forall_mem_cons.mpr ⟨nofun, nofun⟩
  | cons c rest ih =>
    rw [splitSp]
    split
    · exact List.forall_mem_cons.mpr ⟨nofun, ih⟩
    · rename_i hc
      have hc' : ' ' ∉ [c] := fun h => hc (List.mem_singleton.mp h).symm
      cases hs : splitSp rest with
      | nil => exact List.forall_mem_cons.mpr ⟨hc', nofun⟩
      | cons q qs =>
        rw [hs, List.forall_mem_cons] at ih
        exact List.forall_mem_cons.mpr ⟨fun h => (List.mem_cons.mp h).elim (fun e => hc e.symm) ih.1, ih.2⟩

theorem mem_dropSpaces {len : List Char → Nat} {c : Char} (f : Nat) (p : List Char)
    (h : c ∈ dropSpaces len f p) : c ∈ p := by
  induction f generalizing p with
  | zero => exact h
  | succ f ih =>
    rw [dropSpaces] at h
    by_cases hl : len p = 0
    · rwa [if_pos hl] at h
    · rw [if_neg hl] at h; exact List.mem_of_mem_drop (ih _ h)

theorem mem_trim {c : Char} {p : List Char} (h : c ∈ trim p) : c ∈ p :=
  mem_dropSpaces _ _ (List.mem_reverse.mp (mem_dropSpaces _ _ (List.mem_reverse.mp h)))

theorem mem_cleanPart {c : Char} {p : List Char} (h : c ∈ cleanPart p) : c ∈ p ∧ c ≠ '_' := by
  rw [cleanPart, List.mem_filter, decide_eq_true_eq] at h
  exact ⟨mem_trim h.1, h.2⟩

theorem writtenActs_eq (text : List Char) :
    writtenActs text = ((splitSp text).map cleanPart).filter (· ≠ []) := rfl

theorem mem_writtenActs {text : List Char} {a : Act} (h : a ∈ writtenActs text) :
    a ≠ [] ∧ ' ' ∉ a ∧ '_' ∉ a := by
  rw [writtenActs_eq, List.mem_filter, List.mem_map, decide_eq_true_eq] at h
  obtain ⟨⟨p, hp, rfl⟩, hne⟩ := h
  exact ⟨hne, fun hc => splitSp_no_space text p hp (mem_cleanPart hc).1,
    fun hc => (mem_cleanPart hc).2 rfl⟩

theorem validate_iff (defd : Char → Bool) (text : List Char) (acts : List Act) :
    validate defd text = .ok acts ↔
      (acts = writtenActs text ∧ ∀ a ∈ acts, validAct defd a = true) := by
  rw [validate, validateParts_ok, ← writtenActs_eq]
  exact and_congr_right fun e => forall₂_congr fun a ha =>
    checkFrom_none_iff defd a (mem_writtenActs (e ▸ ha)).2.1

/-! ## The valid acts are the well-formed ones -/

theorem IsTail.plusOk {m a : List Char} (hm : IsTail m) (ha : PlusOk a) : PlusOk (m ++ a) := by
  induction hm with
  | nil => exact ha
  | cons d m hd _ ih =>
    exact plusOk_cons.mpr ⟨fun _ => ⟨nofun, fun e => hd (Option.some.inj e)⟩,
      plusOk_cons.mpr ⟨fun h => absurd h hd, ih⟩⟩

theorem Wf.plusOk {a : List Char} (h : Wf a) : PlusOk a := by
  induction h with
  | nil => exact plusOk_nil
  | cons c m a hc hm _ ih => exact plusOk_cons.mpr ⟨fun h => absurd h hc, hm.plusOk ih⟩

theorem PlusOk.split {l : List Char} (h : PlusOk l) : ∃ m a, l = m ++ a ∧ IsTail m ∧ Wf a := by
  induction l with
  | nil => exact ⟨[], [], rfl, .nil, .nil⟩
  | cons x r ih =>
    obtain ⟨hx, hr⟩ := plusOk_cons.mp h
    obtain ⟨m, a, rfl, hm, ha⟩ := ih hr
    by_cases hp : x = '+'
    · cases hm with
      | cons d m hd hm => exact absurd rfl (hx hp).2
      | nil =>
        cases ha with
        | nil => exact absurd rfl (hx hp).1
        | cons d m a hd hm ha => exact ⟨'+' :: d :: m, a, by rw [hp]; rfl, .cons d m hd hm, ha⟩
    · exact ⟨[], x :: (m ++ a), rfl, .nil, .cons x m a hp hm ha⟩

theorem wf_iff (a : List Char) :
    Wf a ↔ (a.head? ≠ some '+' ∧ a.getLast? ≠ some '+' ∧ noPlusPlus a = true) := by
  constructor
  · intro h
    refine ⟨?_, h.plusOk⟩
    cases h with
    | nil => nofun
    | cons c m a hc _ _ => exact fun e => hc (Option.some.inj e)
  · rintro ⟨h0, h⟩
    cases a with
    | nil => exact .nil
    | cons c l =>
      obtain ⟨m, a, rfl, hm, ha⟩ := (plusOk_cons.mp h).2.split
      exact .cons c m a (fun e => h0 (e ▸ rfl)) hm ha

theorem validAct_iff (defd : Char → Bool) (a : List Char) :
    validAct defd a = true ↔ (Wf a ∧ ∀ c ∈ a, c = '.' ∨ c = '+' ∨ defd c = true) := by
  rw [validAct_eq_true, wf_iff, and_assoc]
  rfl

end Shk.Story
