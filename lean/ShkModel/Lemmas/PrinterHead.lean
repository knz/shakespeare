import ShkModel.Lemmas.PrinterBasic
import ShkModel.Lemmas.PrinterStory
/-! Lemmas for C10: loading what `printCfg` emits in front of the audience (titles, roles, cast,
script) rebuilds these parts, for a configuration that satisfies `HeadInv` (`load_head`). -/
namespace Shk.Printer
open Shk.Story (Act)

theorem findRole_mem {c : Cfg} {n : String} {r : Role} (h : findRole c n = some r) :
    r ∈ c.roles ∧ r.name = n :=
  ⟨List.mem_of_find?_eq_some h, by simpa using List.find?_some h⟩

theorem findActor_mem {c : Cfg} {n : String} {a : Actor} (h : findActor c n = some a) :
    a ∈ c.actors ∧ a.name = n :=
  ⟨List.mem_of_find?_eq_some h, by simpa using List.find?_some h⟩

theorem findRole_of_mem {c : Cfg} (hnd : (c.roles.map (·.name)).Nodup) {r : Role} (h : r ∈ c.roles) :
    findRole c r.name = some r := find_of_mem_nodup (fun x : Role => x.name) c.roles r hnd h

theorem findActor_of_mem {c : Cfg} (hnd : (c.actors.map (·.name)).Nodup) {a : Actor} (h : a ∈ c.actors) :
    findActor c a.name = some a := find_of_mem_nodup (fun x : Actor => x.name) c.actors a hnd h

theorem load_front (mt : String → Act → Bool) (ts as ns : List String) : ∀ c : Cfg,
    loadFrom mt c (ts.map Clause.title ++ as.map Clause.author ++ ns.map Clause.attention) =
      some { c with titles := c.titles ++ ts, authors := c.authors ++ as, attn := c.attn ++ ns } := by
  induction ts with
  | cons x ts ih => exact fun c => by simpa [loadFrom, step] using ih { c with titles := c.titles ++ [x] }
  | nil =>
    induction as with
    | cons x as ih => exact fun c => by simpa [loadFrom, step] using ih { c with authors := c.authors ++ [x] }
    | nil =>
      induction ns with
      | cons x ns ih => exact fun c => by simpa [loadFrom, step] using ih { c with attn := c.attn ++ [x] }
      | nil => exact fun c => by simp [loadFrom]

def RoleOk (r : Role) : Prop :=
  (r.actions.map (·.1)).Nodup ∧ (r.sigs.map (·.name)).Nodup ∧ (r.sigs ≠ [] → r.spotlight ≠ "")

theorem ritems_append : ∀ (a b : List RItem) (r : Role),
    ritems r (a ++ b) = (ritems r a).bind fun r' => ritems r' b
  | [], _, _ => rfl
  | x :: a, b, r => by
    simp only [List.cons_append, ritems]
    cases ritem r x with
    | none => rfl
    | some r' => exact ritems_append a b r'

theorem ritems_sigs : ∀ (ss : List Sig) (r : Role), ((r.sigs ++ ss).map (·.name)).Nodup →
    ritems r (ss.map RItem.signal) = some { r with sigs := r.sigs ++ ss }
  | [], r, _ => by simp [ritems]
  | s :: ss, r, h => by
    have hnot := (any_key_false (·.name) r.sigs s.name).mpr (nodup_map_mid h).1
    simp only [List.map_cons, ritems, ritem, hnot, Bool.false_eq_true, if_false]
    rw [ritems_sigs ss _ (by simpa using h)]
    simp

theorem ritems_actions : ∀ (as : List (String × String)) (r : Role), ((r.actions ++ as).map (·.1)).Nodup →
    ritems r (as.map fun a => RItem.action a.1 a.2) = some { r with actions := r.actions ++ as }
  | [], r, _ => by simp [ritems]
  | a :: as, r, h => by
    have hnot := (any_key_false (·.1) r.actions a.1).mpr (nodup_map_mid h).1
    simp only [List.map_cons, ritems, ritem, hnot, Bool.false_eq_true, if_false]
    rw [ritems_actions as _ (by simpa using h)]
    simp

theorem step_printRole (mt : String → Act → Bool) (c : Cfg) (r : Role)
    (hnew : ∀ x ∈ c.roles, x.name ≠ r.name) (hok : RoleOk r) :
    step mt c (printRole r) = some { c with roles := c.roles ++ [r] } := by
  obtain ⟨ha, hs, hsp⟩ := hok
  have hitems : ritems ⟨r.name, "", "", [], []⟩
      ((if r.cleanup = "" then [] else [RItem.cleanup r.cleanup]) ++
       (if r.spotlight = "" then [] else [RItem.spotlight r.spotlight]) ++
       r.sigs.map RItem.signal ++ r.actions.map fun a => RItem.action a.1 a.2) = some r := by
    have h1 : ritems ⟨r.name, "", "", [], []⟩ (if r.cleanup = "" then [] else [RItem.cleanup r.cleanup]) =
        some ⟨r.name, r.cleanup, "", [], []⟩ := by
      split <;> simp [ritems, ritem, *]
    have h2 : ritems ⟨r.name, r.cleanup, "", [], []⟩
        (if r.spotlight = "" then [] else [RItem.spotlight r.spotlight]) =
        some ⟨r.name, r.cleanup, r.spotlight, [], []⟩ := by
      split <;> simp [ritems, ritem, *]
    rw [ritems_append, ritems_append, ritems_append, h1, Option.bind_some, h2, Option.bind_some,
      ritems_sigs r.sigs _ (by simpa using hs), Option.bind_some,
      ritems_actions r.actions _ (by simpa using ha)]
    rfl
  have hchk : (!r.sigs.isEmpty && r.spotlight == "") = false := by
    cases hsg : r.sigs with
    | nil => rfl
    | cons s ss => simp [hsp (by simp [hsg])]
  simp only [step, printRole, stepRole, (any_key_false _ _ _).mpr hnew, Bool.false_eq_true, if_false,
    roleBase, hitems, hchk]

theorem load_roles (mt : String → Act → Bool) : ∀ (rs : List Role) (c : Cfg),
    ((c.roles ++ rs).map (·.name)).Nodup → (∀ r ∈ rs, RoleOk r) →
    loadFrom mt c (rs.map printRole) = some { c with roles := c.roles ++ rs }
  | [], c, _, _ => by simp [loadFrom]
  | r :: rs, c, hnd, hok => by
    rw [List.map_cons, loadFrom_cons, step_printRole mt c r (nodup_map_mid hnd).1 (hok r List.mem_cons_self),
      Option.bind_some,
      load_roles mt rs { c with roles := c.roles ++ [r] } (by simpa using hnd) fun x hx =>
        hok x (List.mem_cons_of_mem _ hx)]
    simp

theorem step_printActor (mt : String → Act → Bool) (c : Cfg) (a : Actor)
    (hnew : ∀ x ∈ c.actors, x.name ≠ a.name) (hrole : ∃ r, findRole c a.role = some r) :
    step mt c (printActor a) = some { c with actors := c.actors ++ [a] } := by
  obtain ⟨r, hr⟩ := hrole
  simp [step, printActor, stepCast, hr, addActor, (any_key_false _ _ _).mpr hnew, (findRole_mem hr).2]

theorem findRole_actors (c : Cfg) (as : List Actor) (n : String) :
    findRole { c with actors := as } n = findRole c n := rfl

theorem load_cast (mt : String → Act → Bool) : ∀ (as : List Actor) (c : Cfg),
    ((c.actors ++ as).map (·.name)).Nodup → (∀ a ∈ as, ∃ r, findRole c a.role = some r) →
    loadFrom mt c (as.map printActor) = some { c with actors := c.actors ++ as }
  | [], c, _, _ => by simp [loadFrom]
  | a :: as, c, hnd, hrole => by
    rw [List.map_cons, loadFrom_cons, step_printActor mt c a (nodup_map_mid hnd).1 (hrole a List.mem_cons_self),
      Option.bind_some,
      load_cast mt as { c with actors := c.actors ++ [a] } (by simpa using hnd) fun x hx =>
        hrole x (List.mem_cons_of_mem _ hx)]
    simp

def SceneOk (c : Cfg) (s : Scene) : Prop :=
  Shk.Story.isShort s.ch = true ∧ (s.entails ≠ [] ∨ s.moodStart ≠ "" ∨ s.moodEnd ≠ "") ∧
  ∀ e ∈ s.entails, ∃ a r, findActor c e.1 = some a ∧ findRole c a.role = some r ∧
    e.2.all (hasAction r) = true

def blankScene (ch : Char) : Scene := ⟨ch, [], "", ""⟩

/-- The scene being rebuilt is the last one, or not there yet: `maybeAddSceneSpec` appends it at
its first clause. -/
def CurScene (l : List Scene) (t : Scene) (S : List Scene) : Prop :=
  S = l ++ [t] ∨ (S = l ∧ t = blankScene t.ch)

theorem upsert_cur {f : Scene → Scene} {ch : Char} : ∀ {l S : List Scene} {t : Scene}, t.ch = ch →
    CurScene l t S → (∀ s ∈ l, s.ch ≠ ch) → upsertScene f ch S = l ++ [f t]
  | [], _, t, ht, .inl rfl, _ => by simp [upsertScene, ht]
  | [], _, t, ht, .inr ⟨rfl, hb⟩, _ => by rw [hb, ht]; rfl
  | s :: l, _, t, ht, h, hl => by
    have hs : ¬ s.ch = ch := hl s List.mem_cons_self
    have ih := fun S h => upsert_cur (f := f) (l := l) (S := S) ht h fun x hx => hl x (List.mem_cons_of_mem _ hx)
    rcases h with rfl | ⟨rfl, hb⟩
    · simp [upsertScene, hs, ih _ (.inl rfl)]
    · simp [upsertScene, hs, ih _ (.inr ⟨rfl, hb⟩)]

theorem load_entails (mt : String → Act → Bool) (c : Cfg) (l : List Scene) (ch : Char)
    (hch : Shk.Story.isShort ch = true) (hl : ∀ s ∈ l, s.ch ≠ ch) :
    ∀ (es : List (String × List String)) (t : Scene) (S : List Scene), t.ch = ch → CurScene l t S →
      (∀ e ∈ es, ∃ a r, findActor c e.1 = some a ∧ findRole c a.role = some r ∧ e.2.all (hasAction r) = true) →
      ∃ S', loadFrom mt { c with scenes := S } (es.map fun e => Clause.entails ch (.actor e.1) e.2) =
          some { c with scenes := S' } ∧ CurScene l { t with entails := t.entails ++ es } S'
  | [], t, S, _, hcur, _ => ⟨S, rfl, by simpa using hcur⟩
  | e :: es, t, S, ht, hcur, hok => by
    obtain ⟨a, r, ha, hr, hact⟩ := hok e List.mem_cons_self
    have han := (findActor_mem ha).2
    have hsel : selectActors { c with scenes := S } (.actor e.1) = some (r, [a]) := by
      have h1 : findActor { c with scenes := S } e.1 = some a := ha
      have h2 : findRole { c with scenes := S } a.role = some r := hr
      simp only [selectActors, h1, h2]
    obtain ⟨S', h1, h2⟩ := load_entails mt c l ch hch hl es (addEntails [e.1] e.2 t) _ ht (.inl rfl)
      fun x hx => hok x (List.mem_cons_of_mem _ hx)
    refine ⟨S', ?_, by simpa [addEntails, List.append_assoc] using h2⟩
    simpa [loadFrom, step, hch, hsel, hact, han, upsert_cur ht hcur hl] using h1

theorem load_mood (mt : String → Act → Bool) (c : Cfg) {l S : List Scene} {t : Scene} {ch : Char}
    (starts : Bool) (m : String) (hch : Shk.Story.isShort ch = true) (hl : ∀ s ∈ l, s.ch ≠ ch)
    (hcur : CurScene l t S) (ht : t.ch = ch) (hm : m = "" → setMood starts m t = t) :
    ∃ S', loadFrom mt { c with scenes := S } (if m = "" then [] else [Clause.mood ch starts m]) =
        some { c with scenes := S' } ∧ CurScene l (setMood starts m t) S' := by
  by_cases h : m = ""
  · exact ⟨S, by simp [h, loadFrom], (hm h).symm ▸ hcur⟩
  · exact ⟨_, by simp [h, loadFrom, step, hch, upsert_cur ht hcur hl], .inl rfl⟩

theorem load_scene (mt : String → Act → Bool) (c : Cfg) (l : List Scene) (s : Scene)
    (hok : SceneOk c s) (hl : ∀ x ∈ l, x.ch ≠ s.ch) :
    loadFrom mt { c with scenes := l } (printScene s) = some { c with scenes := l ++ [s] } := by
  obtain ⟨hch, hne, hent⟩ := hok
  obtain ⟨S1, h1, c1⟩ := load_entails mt c l s.ch hch hl s.entails (blankScene s.ch) l rfl (.inr ⟨rfl, rfl⟩) hent
  have c1 : CurScene l ⟨s.ch, s.entails, "", ""⟩ S1 := c1
  obtain ⟨S2, h2, c2⟩ := load_mood mt c true s.moodStart hch hl c1 rfl fun h => by rw [h]; rfl
  have c2 : CurScene l ⟨s.ch, s.entails, s.moodStart, ""⟩ S2 := c2
  obtain ⟨S3, h3, c3⟩ := load_mood mt c false s.moodEnd hch hl c2 rfl fun h => by rw [h]; rfl
  have c3 : CurScene l s S3 := c3
  rw [printScene, loadFrom_append, loadFrom_append, h1, Option.bind_some, h2, Option.bind_some, h3]
  rcases c3 with rfl | ⟨-, hb⟩
  · rfl
  · rw [hb] at hne; simp [blankScene] at hne

theorem load_scenes (mt : String → Act → Bool) (c : Cfg) : ∀ (scs l : List Scene),
    ((l ++ scs).map (·.ch)).Nodup → (∀ s ∈ scs, SceneOk c s) →
    loadFrom mt { c with scenes := l } (scs.flatMap printScene) = some { c with scenes := l ++ scs }
  | [], l, _, _ => by simp [loadFrom]
  | s :: scs, l, hnd, hok => by
    rw [List.flatMap_cons, loadFrom_append, load_scene mt c l s (hok s List.mem_cons_self) (nodup_map_mid hnd).1,
      Option.bind_some,
      load_scenes mt c scs (l ++ [s]) (by simpa using hnd) fun x hx => hok x (List.mem_cons_of_mem _ hx)]
    simp

/-- the table of C06 for the scenes of a configuration (only which scenes exist matters here) -/
def tblOf (c : Cfg) : Shk.Story.Table := fun ch => if sceneDefined c ch then some {} else none

theorem defd_tblOf (c : Cfg) : Shk.Story.defd (tblOf c) = sceneDefined c := by
  funext ch
  simp only [Shk.Story.defd, tblOf]
  cases sceneDefined c ch <;> rfl

/-- what `validateStoryLine` and `combineStoryLines` guarantee for `cfg.storyLine` -/
def StoryOk (c : Cfg) : Prop :=
  Shk.Story.ValidStory (tblOf c) c.story ∧
  ∀ a ∈ c.story, a ≠ [] ∧ ∀ x ∈ a, Shk.Story.isPlain x = true

open Shk.Story in
theorem validate_joinSp (c : Cfg) (hok : StoryOk c) (hne : c.story ≠ []) :
    validate (sceneDefined c) (joinSp c.story) = .ok c.story := by
  obtain ⟨hv, hs⟩ := hok
  have hsp : ∀ a ∈ c.story, ' ' ∉ a := fun a ha h => by
    have := (hs a ha).2 ' ' h
    revert this; decide
  have hclean : c.story.map cleanPart = c.story := (List.map_congr_left fun a ha =>
    cleanPart_id a (hs a ha).2 fun h => ((hv a ha).2 '_' h).1 rfl).trans (List.map_id _)
  rw [validate_iff, writtenActs_eq, splitSp_joinSp c.story hne hsp, hclean]
  refine ⟨(List.filter_eq_self.mpr fun a ha => by simpa using (hs a ha).1).symm, fun a ha => ?_⟩
  rw [validAct_iff, ← defd_tblOf]
  exact ⟨(hv a ha).1, fun x hx => by simpa [Shk.Story.defd] using ((hv a ha).2 x hx).2⟩

/-- the middle conjunct: `c2` differs from `c1` at most in the story and the four repeat fields (its own on the right);
`effRepeat` says what of those matters -/
theorem load_story (mt : String → Act → Bool) (c : Cfg) (hok : StoryOk c)
    (hrep : ∀ re, c.repFrom = some re → c.repAct = firstMatch mt re c.story)
    (c1 : Cfg) (h1s : c1.scenes = c.scenes) (h1st : c1.story = []) (h1r : c1.repFrom = none) :
    ∃ c2, loadFrom mt c1 (printStory c) = some c2 ∧
      c2 = { c1 with story := c.story, repFrom := c2.repFrom, repAct := c2.repAct, repTime := c2.repTime,
                     repCount := c2.repCount } ∧
      effRepeat c2 = effRepeat c := by
  by_cases hne : c.story = []
  · exact ⟨c1, by simp [printStory, hne, loadFrom], by rw [hne, ← h1st], by simp [effRepeat, hne, h1st]⟩
  · have hdef : sceneDefined c1 = sceneDefined c := by funext ch; simp [sceneDefined, h1s]
    have hst : step mt c1 (Clause.storyline (Shk.Story.joinSp c.story)) = some { c1 with story := c.story } := by
      simp only [step, hdef, validate_joinSp c hok hne, h1st, Shk.Story.combineStory, updateRepeat, h1r]
    simp only [printStory, hne, if_false, loadFrom, hst]
    cases hr : c.repFrom with
    | none => exact ⟨_, rfl, rfl, by simp [effRepeat, hne, hr, h1r]⟩
    | some re => exact ⟨_, rfl, rfl, by simp [effRepeat, hne, hr, updateRepeat, hrep re hr]⟩

/-- the roles, cast and script of a loaded configuration -/
structure HeadInv (mt : String → Act → Bool) (c : Cfg) : Prop where
  roleNames : (c.roles.map (·.name)).Nodup
  roles : ∀ r ∈ c.roles, RoleOk r
  actorNames : (c.actors.map (·.name)).Nodup
  actorRole : ∀ a ∈ c.actors, ∃ r, findRole c a.role = some r
  sceneChars : (c.scenes.map (·.ch)).Nodup
  scenes : ∀ s ∈ c.scenes, SceneOk c s
  story : StoryOk c
  rep : ∀ re, c.repFrom = some re → c.repAct = firstMatch mt re c.story

theorem load_head {mt : String → Act → Bool} {c : Cfg} (h : HeadInv mt c) :
    ∃ c8, loadFrom mt Cfg.init (printHead c) = some c8 ∧ c8.members = [] ∧ c8.roles = c.roles ∧
      c8.actors = c.actors ∧ ∀ qs, All₂ Member.Equiv c.members qs → Cfg.Equiv c { c8 with members := qs } := by
  let c3 : Cfg := { Cfg.init with titles := c.titles, authors := c.authors, attn := c.attn }
  let c4 : Cfg := { c3 with roles := c.roles }
  let c5 : Cfg := { c4 with actors := c.actors }
  let c6 : Cfg := { c5 with tempo := c.tempo }
  let c7 : Cfg := { c6 with scenes := c.scenes }
  have e3 : loadFrom mt Cfg.init (c.titles.map Clause.title ++ c.authors.map Clause.author ++
      c.attn.map Clause.attention) = some c3 := by
    rw [load_front]; simp [c3, Cfg.init]
  have e4 : loadFrom mt c3 (c.roles.map printRole) = some c4 := by
    rw [load_roles mt c.roles c3 (by simpa [c3, Cfg.init] using h.roleNames) h.roles]
    simp [c4, c3, Cfg.init]
  have e5 : loadFrom mt c4 (c.actors.map printActor) = some c5 := by
    rw [load_cast mt c.actors c4 (by simpa [c4, c3, Cfg.init] using h.actorNames) h.actorRole]
    simp [c5, c4, c3, Cfg.init]
  have e6 : loadFrom mt c5 [Clause.tempo c.tempo] = some c6 := rfl
  have e7 : loadFrom mt c6 (c.scenes.flatMap printScene) = some c7 := by
    simpa [c7, c6, c5, c4, c3, Cfg.init] using
      load_scenes mt c6 c.scenes [] (by simpa using h.sceneChars) h.scenes
  obtain ⟨c8, e8, hf, hrep⟩ := load_story mt c h.story h.rep c7 rfl rfl rfl
  refine ⟨c8, ?_, by rw [hf]; rfl, by rw [hf], by rw [hf], fun qs hqs => ?_⟩
  · simp only [printHead, loadFrom_append, e3, Option.bind_some, e4, e5, e6, e7, e8]
  · exact ⟨by rw [hf], by rw [hf], by rw [hf], by rw [hf], by rw [hf], by rw [hf], by rw [hf], by rw [hf], hrep.symm, hqs⟩

end Shk.Printer
