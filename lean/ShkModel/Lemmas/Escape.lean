import ShkModel.Model.Escape
/-! The `escapeNl` round trip (C10) is one induction over the text, stated with the line read so far (`cur`) so that it
passes the backslash-newline pairs: `gather_escape`.  The `_prefix` lemmas put a newline-free keyword part in front. -/
namespace Shk.Escape
open Shk.Preproc Shk.Reader

theorem endsBackslash_snoc (c : Bytes) (b : Nat) : endsBackslash (c ++ [b]) = (b == 92) := by
  simp [endsBackslash]

theorem endsBackslash_append_cons (c : Bytes) (b : Nat) (t : Bytes) :
    endsBackslash (c ++ b :: t) = endsBackslash (b :: t) := by
  unfold endsBackslash
  rw [List.getLast?_append]
  cases h : (b :: t).getLast? with
  | none => simp at h
  | some x => simp

theorem endsBackslash_nl_cons (t : Bytes) : endsBackslash (10 :: t) = endsBackslash t := by
  cases t with
  | nil => simp [endsBackslash]
  | cons x xs => simp [endsBackslash, List.getLast?_cons_cons]

theorem fin_nl (c t : Bytes) : fin (c ++ 10 :: t) = fin t := by
  unfold fin; rw [endsBackslash_append_cons, endsBackslash_nl_cons]

/-- the reader joins the physical lines of an escaped text back into the text -/
theorem gather_escape (tail : Bytes) (bad : Bool) (rest : List Bytes) :
    ∀ (t cur acc : Bytes) (k : Nat),
      gather tail bad acc (splitNl cur (escBody t ++ fin (cur ++ t)) ++ rest) k
        = .line (acc ++ cur ++ t ++ fin (cur ++ t)) rest (k + nls t + 1) false := by
  intro t
  induction t with
  | nil =>
    intro cur acc k
    simp only [escBody, List.nil_append, List.append_nil, nls, Nat.add_zero]
    unfold fin
    by_cases h : endsBackslash cur = true
    · simp [h, splitNl, gather, endsBackslash_snoc, List.append_assoc]
    · simp [h, splitNl, gather]
  | cons b t ih =>
    intro cur acc k
    by_cases hb : b = 10
    · subst hb
      have : escBody (10 :: t) = 92 :: 10 :: escBody t := by simp [escBody]
      rw [this, fin_nl]
      have h2 : splitNl cur (92 :: 10 :: escBody t ++ fin t) = (cur ++ [92]) :: splitNl [] (escBody t ++ fin ([] ++ t)) := by
        simp [splitNl]
      rw [h2, List.cons_append]
      unfold gather
      rw [if_pos (by simp [endsBackslash_snoc])]
      have h3 : acc ++ (cur ++ [92]).dropLast ++ [10] = acc ++ cur ++ [10] := by simp
      rw [h3, ih [] (acc ++ cur ++ [10]) (k + 1)]
      simp [nls, List.append_assoc]; omega
    · have : escBody (b :: t) = b :: escBody t := by simp [escBody, hb]
      rw [this]
      have h2 : splitNl cur (b :: escBody t ++ fin (cur ++ b :: t)) = splitNl (cur ++ [b]) (escBody t ++ fin ((cur ++ [b]) ++ t)) := by
        simp [splitNl, hb]
      rw [h2, ih (cur ++ [b]) acc k]
      simp [nls, hb, List.append_assoc]

theorem splitNl_prefix (pre : Bytes) (h : 10 ∉ pre) : ∀ (cur x : Bytes),
    splitNl cur (pre ++ x) = splitNl (cur ++ pre) x := by
  induction pre with
  | nil => intro cur x; simp
  | cons b p ih =>
    intro cur x
    have hb : b ≠ 10 := fun e => h (by simp [e])
    have hp : 10 ∉ p := fun e => h (by simp [e])
    simp only [List.cons_append, splitNl, hb, if_false]
    rw [ih hp]; simp [List.append_assoc]

theorem nls_prefix (pre : Bytes) (h : 10 ∉ pre) (t : Bytes) : nls (pre ++ t) = nls t := by
  induction pre with
  | nil => simp
  | cons b p ih =>
    have hb : b ≠ 10 := fun e => h (by simp [e])
    have hp : 10 ∉ p := fun e => h (by simp [e])
    simp [nls, hb, ih hp]

theorem fin_prefix (pre t : Bytes) (h : t ≠ [] ∨ endsBackslash pre = false) : fin (pre ++ t) = fin t := by
  cases t with
  | nil =>
    cases h with
    | inl h => exact absurd rfl h
    | inr h => simp [fin, h, show endsBackslash [] = false from rfl]
  | cons b t => unfold fin; rw [endsBackslash_append_cons]

end Shk.Escape
