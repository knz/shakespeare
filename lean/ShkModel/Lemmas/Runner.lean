import ShkModel.Model.Runner
/-!
# The command runner: when it returns (C07)

Whether and when the runner returns is decided by four fields of its state — the phase, whether the
group leader lives, whether the output is open, whether children were left behind.  They evolve on
their own: sending signals (`sendHup`, `sendKill`, `watch`) never touches them, and of `Params` only
"does this runner listen to this event" matters.  `Proc` is that part of the state, `Proc.step` its
transition function (32 states, 8 events), `Proc.sane` an invariant of it.  What C07 says about `exit`
follows from the invariant, for every parameter combination, the pinned runner included.
-/
namespace Shk.Runner

structure Proc where
  phase : Phase
  alive : Bool
  pipe : Bool
  orphans : Bool

def St.proc (s : St) : Proc := ⟨s.phase, s.alive, s.pipe, s.orphans⟩

/-- the phase once the output is closed or the process gone: both read loops are left -/
def Phase.closed : Phase → Phase
  | .returned => .returned
  | _ => .drained

/-- `maybeReturn` -/
def Proc.finish (c : Proc) : Proc :=
  if c.phase == .drained && !c.alive then { c with phase := .returned } else c

/-- `step` on the four fields, for an event the runner listens to -/
def Proc.step (c : Proc) (e : Ev) : Proc :=
  if c.phase == .returned then c else
  Proc.finish <|
    match e with
    | .eof => if c.pipe then { c with pipe := false, orphans := false, phase := c.phase.closed } else c
    | .exit => if c.alive || c.orphans then ⟨c.phase.closed, false, false, false⟩ else c
    | .exitKeep => if c.alive && c.pipe then { c with alive := false, orphans := true } else c
    | .stop | .cancel | .term => if c.phase == .reading then { c with phase := .draining } else c
    | .line | .twoSec => c

/-- a `stop` reaches only interruptible commands, a `term` only those given a termination channel -/
def listens (p : Params) : Ev → Bool
  | .stop => p.interruptible
  | .term => p.hasTerm
  | _ => true

@[simp] theorem sendHup_proc (s : St) : (sendHup s).proc = s.proc := by
  unfold sendHup; split <;> rfl

@[simp] theorem sendKill_proc (s : St) : (sendKill s).proc = s.proc := by
  unfold sendKill; split <;> rfl

@[simp] theorem watch_proc (p : Params) (s : St) : (watch p s).proc = s.proc := by
  simp only [watch]; split
  · split <;> split <;> simp
  · rfl

@[simp] theorem maybeReturn_proc (s : St) : (maybeReturn s).proc = s.proc.finish := by
  unfold maybeReturn Proc.finish
  by_cases h : (s.phase == .drained && !s.alive) = true <;> simp [h, St.proc]

@[simp] theorem enterDrain_proc (s : St) : (enterDrain s).proc = { s.proc with phase := .draining } := by
  unfold enterDrain; split
  · rw [sendHup_proc]; rfl
  · rfl

/-- a request to stop that the runner listens to moves a reading runner to draining; whether a command already
draining is killed (`d`) does not show in the four fields -/
theorem ask_proc (s s1 d : St) (h1 : s1.proc = s.proc) (hd : d.proc = s.proc) :
    (match s.phase with
      | .reading => enterDrain { s1 with interrupt := true }
      | .draining => d
      | _ => s1).proc = if s.proc.phase = .reading then { s.proc with phase := .draining } else s.proc := by
  have h' : ({ s1 with interrupt := true } : St).proc = s.proc := h1
  have hp : s.proc.phase = s.phase := rfl
  cases hph : s.phase <;> simp [enterDrain_proc, h', h1, hd, hp, hph]

/-- an event the runner does not listen to acts on the four fields like a line of output -/
theorem proc_step (p : Params) (s : St) (e : Ev) :
    (step p s e).proc = s.proc.step (if listens p e then e else .line) := by
  unfold step Proc.step
  by_cases hr : s.phase = .returned
  · simp [hr, St.proc]
  · have hr' : s.proc.phase ≠ .returned := hr
    simp only [hr, hr', beq_iff_eq, if_false, maybeReturn_proc, watch_proc]
    congr 1
    cases e <;> simp only [listens, if_true]
    -- `line` is closed already; the other seven events in the order of `Ev`
    · -- eof
      cases hp : s.pipe <;> cases hph : s.phase <;> simp [St.proc, hp, hph, Phase.closed]
    · -- exit
      cases ha : s.alive <;> cases ho : s.orphans <;> cases hph : s.phase <;> simp_all [St.proc, Phase.closed]
    · -- exitKeep
      cases ha : s.alive <;> cases hp : s.pipe <;> simp [St.proc, ha, hp]
    · -- stop: heard by interruptible commands only
      obtain ⟨i, _, _⟩ := p
      cases i
      · rfl
      · exact ask_proc s { s with stop := true } _ rfl (by split; exact rfl; exact sendKill_proc _)
    · -- cancel
      exact ask_proc s { s with cancel := true } _ rfl (by split; exact rfl; exact sendKill_proc _)
    · -- term: heard with a termination channel only; a draining command is left alone
      obtain ⟨_, t, _⟩ := p
      cases t
      · rfl
      · cases hph : s.phase <;> simp only [Bool.not_true, Bool.false_eq_true, if_false, if_true]
        · rw [enterDrain_proc]; simp [St.proc, hph]
        all_goals simp [St.proc, hph]
    · -- twoSec: only signals
      split
      · split
        · exact sendKill_proc _
        · rfl
      · rfl

/-- What no event breaks: a drained or returned runner has seen its output close; children left behind
hold the output of a dead leader; once nobody of the group is left the runner has returned, and not
before the leader is gone. -/
def Proc.sane (c : Proc) : Bool :=
  (c.phase == .reading || c.phase == .draining || !c.pipe) &&
  (!c.orphans || (!c.alive && c.pipe)) &&
  (c.alive || c.orphans || c.phase == .returned) &&
  (c.phase != .returned || !c.alive)

/-- 32 states, 8 events: checked case by case -/
theorem Proc.sane_step (c : Proc) (e : Ev) : c.sane = true → (c.step e).sane = true := by
  obtain ⟨ph, a, pi, o⟩ := c
  cases e <;> cases ph <;> cases a <;> cases pi <;> cases o <;> decide

theorem run_proc_sane (p : Params) (evs : List Ev) : (run p evs).proc.sane = true := by
  suffices ∀ s : St, s.proc.sane = true → (evs.foldl (step p) s).proc.sane = true from this {} rfl
  induction evs with
  | nil => exact fun _ h => h
  | cons e es ih => exact fun s h => ih _ (proc_step p s e ▸ Proc.sane_step _ _ h)

/-- once the whole process group is gone the runner returns -/
theorem Proc.exit_returns (c : Proc) (h : c.sane = true) : (c.step .exit).phase = .returned := by
  unfold Proc.step
  by_cases hr : c.phase = .returned
  · simp [hr]
  · -- somebody of the group is left (third clause of `sane`), so `exit` closes the output and ends the
    -- leader; a runner in a closed phase whose leader is gone returns
    have hl : (c.alive || c.orphans) = true := by
      simp only [Proc.sane, Bool.and_eq_true, Bool.or_eq_true, beq_iff_eq] at h
      simpa [hr] using h.1.2
    cases hp : c.phase <;> simp_all [Proc.finish, Phase.closed]

end Shk.Runner
