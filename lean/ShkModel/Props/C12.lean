import ShkModel.Lemmas.Paths
/-!
# C12 — results land in one run directory and are kept or erased as documented

Claim level: **partial**.  The theorems are about the models in `Model/Paths.lean`
(`filepath.Clean/Join/Abs`, the kernel's rule for a symbolic link under the assumption that no
directory on the way is itself a link, the deferred steps of `run()`, the time-range
normalisation of `assemble`).  `vlib/c12.py` ties them to the real program: `filepath.Clean/Join`
and the real `prepareDirs` in-process on generated `-o` values, and the whole flag matrix with the
real binary.
-/
namespace Shk.C12
open Shk.Paths

/-- For every current directory, every `-o` argument (relative, nested,
absolute, `.`; with any amount of `.`, `..`, doubled or trailing slashes) and every run
identifier, the link `<o>/latest` created by the repaired `prepareDirs` resolves to the run
directory `<o>/<run id>` (both made absolute the way the kernel does). -/
theorem latest_resolves {α : Type} (latest : α) (cwd : List α) (o : P α) (sub : List α) :
    resolveLink cwd (prepareDirs latest o sub).alias (prepareDirs latest o sub).target
      = absolutize cwd (prepareDirs latest o sub).runDir := by
  rw [absolutize_runDir]
  exact resolveLink_latest cwd o latest _ rfl

/-- Whatever sat at `<o>/latest` before the run (nothing, a link of an
earlier run whether it still resolves or dangles because that run was erased, a file, an empty
directory), after `prepareDirs` it is the link of *this* run; only a non-empty directory makes
`prepareDirs` fail. -/
theorem latest_replaced {α : Type} (prev : Slot α) (target : P α) (h : prev ≠ .fullDir) :
    replaceLatest prev target = some (.link target) := by
  cases prev with
  | fullDir => exact absurd rfl h
  | _ => rfl

theorem latest_fullDir_fails {α : Type} (target : P α) : replaceLatest (.fullDir : Slot α) target = none := rfl

/-- the link of an erased earlier run (`--clear`) is replaced, and then resolves to this run -/
example : replaceLatest (.link ⟨false, names [5]⟩) (prepareDirs 9 ⟨false, names [2]⟩ [7]).target
      = some (.link ⟨false, names [7]⟩) ∧
    resolveLink [0, 1] (prepareDirs 9 ⟨false, names [2]⟩ [7]).alias ⟨false, names [7]⟩
      = absolutize [0, 1] (prepareDirs 9 ⟨false, names [2]⟩ [7]).runDir := by decide +kernel

/-- witness for the `os.Stat` variant: a dangling link survives, so `latest` keeps naming the
erased run -/
theorem stat_variant_keeps_dangling_link :
    replaceLatestStat (.link (⟨false, names [5]⟩ : P Nat)) false ⟨false, names [7]⟩
      = some (.link ⟨false, names [5]⟩) := by decide +kernel

/-- the pinned code: with `-o out` from `/tmp/w` the link `out/latest` holds the text `out/7`
and therefore resolves to `/tmp/w/out/out/7`, not to the run directory `/tmp/w/out/7`
(names: 0 = tmp, 1 = w, 2 = out, 9 = latest, 7 = the run id). -/
theorem latest_dangles_old :
    resolveLink [0, 1] (prepareDirsOld 9 ⟨false, [Comp.nm 2]⟩ [7]).alias
        (prepareDirsOld 9 ⟨false, [Comp.nm 2]⟩ [7]).target
      = (⟨true, names [0, 1, 2, 2, 7]⟩ : P Nat)
    ∧ absolutize [0, 1] (prepareDirsOld 9 ⟨false, [Comp.nm 2]⟩ [7]).runDir
      = (⟨true, names [0, 1, 2, 7]⟩ : P Nat) := by decide +kernel

/-- … and this is so for every plain relative output directory `d₁/…/dₙ` (n ≥ 1): the old link
resolves to `cwd/d/d/<id>`, which is a different path than `cwd/d/<id>`. -/
theorem latest_dangles_old_rel {α : Type} (latest : α) (cwd d sub : List α) (hd : d ≠ []) (hs : sub ≠ []) :
    resolveLink cwd (prepareDirsOld latest ⟨false, names d⟩ sub).alias
        (prepareDirsOld latest ⟨false, names d⟩ sub).target
      ≠ absolutize cwd (prepareDirsOld latest ⟨false, names d⟩ sub).runDir := by
  -- the old text is `d/<id>` again, read from `cwd/d`: a walk longer by `d` than that of the run directory
  have hc : (join ⟨false, names d⟩ (names sub)).comps = names (d ++ sub) := by
    rw [join, clean, ← names_append, cleanComps_names]
  simp only [prepareDirsOld, hs, if_false]
  rw [resolveLink_latest _ _ _ _ rfl, hc, absolutize_join_names, absolutize_join_names]
  intro h
  have := congrArg (fun p => p.comps.length) h
  simp only [names, List.length_append, List.length_map] at this
  exact hd (List.length_eq_zero_iff.mp (by omega))

/-- the old code was right for an absolute `-o` (which is why the defect went unnoticed in setups
that pass an absolute directory) -/
theorem latest_old_ok_absolute {α : Type} (latest : α) (cwd : List α) (o : P α) (sub : List α)
    (ho : o.abs = true) (hs : sub ≠ []) :
    resolveLink cwd (prepareDirsOld latest o sub).alias (prepareDirsOld latest o sub).target
      = absolutize cwd (prepareDirsOld latest o sub).runDir := by
  simp only [resolveLink, prepareDirsOld, hs, if_false, join, clean, absolutize, ho, if_true]

/-- `-o /0/../1` with a run identifier meets the hypotheses -/
example : (⟨true, [Comp.nm 0, Comp.up, Comp.nm 1]⟩ : P Nat).abs = true ∧ ([7] : List Nat) ≠ [] := by decide +kernel

/-- Whatever the flags and whichever steps fail: the artifacts directory is
still there at the end iff (the play failed ∨ `-k`) and the run directory was not erased; the
run directory is erased iff (`--clear` ∨ an upload URL) and the program did not fail — where an explicit
`--clear=false` next to an upload URL keeps the directory (`initArgs` lets the upload imply `--clear` only when the
flag was not given: `removeAll`). -/
theorem survive_table (f : Flags) (e : Faults) :
    ((runEnd f e).artifacts = true ↔
        ((runEnd f e).playFailed = true ∨ f.k = true) ∧
          ¬ (removeAll f = true ∧ (runEnd f e).exitNonZero = false))
    ∧ ((runEnd f e).runDir = false ↔
        removeAll f = true ∧ (runEnd f e).exitNonZero = false) := by
  have hd : (runEnd f e).runDir = false ↔ removeAll f = true ∧ (runEnd f e).exitNonZero = false := by
    rw [runDir_eq]; cases (runEnd f e).exitNonZero <;> cases removeAll f <;> simp
  refine ⟨?_, hd⟩
  rw [← hd, artifacts_kept]
  simp

/-- … in the words of the property, for every command line that does not say `--clear=false` -/
theorem removeAll_plain (f : Flags) (h : f.clear ≠ some false) :
    removeAll f = true ↔ (f.clear = some true ∨ f.upload = true) := by
  cases hc : f.clear with
  | none => simp [removeAll, hc]
  | some b => cases b <;> simp_all [removeAll]

/-- `--clear=false` keeps the run directory, upload or not, whatever fails -/
theorem explicit_no_clear_keeps (f : Flags) (e : Faults) (h : f.clear = some false) : (runEnd f e).runDir = true := by
  rw [runDir_eq, removeAll_of_clear h]; exact Bool.or_true _

/-- the executable form used as oracle on the real tree agrees with `survive_table` -/
theorem survive_spec_holds (f : Flags) (e : Faults) :
    surviveSpec f (runEnd f e).playFailed (runEnd f e).exitNonZero (runEnd f e).artifacts (runEnd f e).runDir = true := by
  rw [surviveSpec, artifacts_kept, runDir_eq]
  cases (runEnd f e).exitNonZero <;> cases removeAll f <;> simp

/-- **what is uploaded** holds the artifacts iff the play failed or `-k` was given (in the manual's list of what
the end of a run does, the artifacts are erased in step 4 and the upload is step 5) -/
theorem uploaded_artifacts (f : Flags) (e : Faults) (h : (runEnd f e).uploaded = true) :
    (runEnd f e).uploadedArtifacts = true ↔ ((runEnd f e).playFailed = true ∨ f.k = true) := by
  rw [uploadedArtifacts_kept, h]; simp

/-- before the repair a clean play without `-k` was uploaded with its artifacts (witness) -/
theorem old_uploads_artifacts_of_a_clean_play :
    (runEndOld ⟨false, none, true, false⟩ ⟨false, false, false, false⟩).uploadedArtifacts = true ∧
    (runEnd ⟨false, none, true, false⟩ ⟨false, false, false, false⟩).uploadedArtifacts = false := by decide +kernel

/-- a failed run never loses its results: no flag erases the run directory or result.js of a run that exits with a
non-zero status, nor the artifacts of a play that failed -/
theorem failure_keeps_everything (f : Flags) (e : Faults) (h : (runEnd f e).exitNonZero = true) :
    (runEnd f e).runDir = true ∧ (runEnd f e).result = true ∧
      ((runEnd f e).playFailed = true → (runEnd f e).artifacts = true) := by
  have hd : (runEnd f e).runDir = true := by rw [runDir_eq, h]; rfl
  refine ⟨hd, (result_eq f e).trans hd, fun hp => ?_⟩
  rw [artifacts_kept, hd, hp]; rfl

/-- a failed play under `--clear` meets the hypothesis -/
example : (runEnd ⟨false, true, false, false⟩ ⟨true, false, false, false⟩).exitNonZero = true := by decide +kernel

/-- a run directory that is kept holds result.js / index.html, and the plot scripts iff plots
were not disabled (and could be written) -/
theorem kept_run_dir_is_complete (f : Flags) (e : Faults) (h : (runEnd f e).runDir = true) :
    (runEnd f e).result = true ∧ ((runEnd f e).plots = true ↔ (f.skipPlot = false ∧ e.plot = false)) := by
  refine ⟨(result_eq f e).trans h, ?_⟩
  rw [plots_eq, h]; simp

/-- a clean run under `--clear=false` meets the hypothesis -/
example : (runEnd ⟨false, false, false, false⟩ ⟨false, false, false, false⟩).runDir = true := by decide +kernel

/-- When nothing fails *after* the play (plot files, upload), the `Foul`
flag written to result.js equals (exit status ≠ 0). -/
theorem foul_flag_eq_exit (f : Flags) (e : Faults) (hp : e.plot = false) (hu : e.upload = false) :
    (runEnd f e).foulFlag = (runEnd f e).exitNonZero := by
  rw [foulFlag_eq, exit_eq, playFailed_eq, hp, hu]; simp

/-- a play that fails, with nothing failing after it, meets the hypotheses -/
example : (⟨true, false, false, false⟩ : Faults).plot = false ∧ (⟨true, false, false, false⟩ : Faults).upload = false := by decide +kernel

/-- … and what the code does otherwise (stated outright): `assemble` fixes the flag before
`plot()` and the upload run, so an error of either gives exit status 1 with `Foul: false`. -/
theorem foul_flag_misses_late_errors :
    (runEnd ⟨false, false, false, false⟩ ⟨false, false, true, false⟩).foulFlag = false
    ∧ (runEnd ⟨false, false, false, false⟩ ⟨false, false, true, false⟩).exitNonZero = true
    ∧ (runEnd ⟨false, false, true, false⟩ ⟨false, false, false, true⟩).foulFlag = false
    ∧ (runEnd ⟨false, false, true, false⟩ ⟨false, false, false, true⟩).exitNonZero = true := by decide +kernel

/-- After `assemble`, `MinTime ≤ t ≤ MaxTime` for every time `t` passed to
`expandTimeRange` (negative ones included), `MinTime ≤ 0` and `MaxTime ≥ MinTime + 1 s`. -/
theorem range_contains (sec : Int) (hsec : 0 ≤ sec) (ts : List Int) :
    (∀ t ∈ ts, (normalise sec (record ts)).1 ≤ t ∧ t ≤ (normalise sec (record ts)).2)
    ∧ (normalise sec (record ts)).1 ≤ 0
    ∧ (normalise sec (record ts)).1 + sec ≤ (normalise sec (record ts)).2 := by
  refine ⟨fun t ht => ?_, normalise_shape sec _⟩
  obtain ⟨lo, hi, hr, h1, h2⟩ := record_covers ht
  rw [hr]
  exact normalise_covers hsec h1 h2

/-- **the time range contains every recorded time**, the act starts and the ends of the mood periods included (they are
recorded by the audition, not by the collector: `assemble` adds them since c9d1f38) -/
theorem range_contains_acts_and_moods (sec : Int) (hsec : 0 ≤ sec) (collected acts moodEnds : List Int) :
    ∀ t, t ∈ collected ∨ t ∈ acts ∨ t ∈ moodEnds →
      (resultRange sec collected acts moodEnds).1 ≤ t ∧ t ≤ (resultRange sec collected acts moodEnds).2 := by
  intro t ht
  apply (range_contains sec hsec (collected ++ (acts ++ moodEnds))).1 t
  simp only [List.mem_append]
  exact ht

/-- before the repair an act that holds no action started beyond `MaxTime` (times in 1/10000 s: the play of the
finding, tempo 600 ms, `storyline p .` repeated: one action at 0, act starts at 1.2 s and 1.8 s) -/
theorem old_range_misses_an_idle_act :
    (resultRangeOld 10000 [0, 5]).2 < 12000 ∧ (resultRange 10000 [0, 5] [0, 6000, 12000, 18000] []).2 = 18000 := by decide +kernel

/-- one second in units of 1/10000 s meets `hsec` -/
example : (0 : Int) ≤ 10000 := by decide +kernel

/-- the executable form used as oracle on the real result.js -/
theorem range_spec_holds (sec : Int) (hsec : 0 ≤ sec) (ts : List Int) :
    rangeSpec sec ts (normalise sec (record ts)).1 (normalise sec (record ts)).2 = true := by
  obtain ⟨h1, h2, h3⟩ := range_contains sec hsec ts
  simp only [rangeSpec, Bool.and_eq_true, List.all_eq_true, decide_eq_true_eq]
  exact ⟨⟨fun t ht => ⟨(h1 t ht).1, (h1 t ht).2⟩, h2⟩, h3⟩

/-- all recorded times negative: the code sets `MaxTime` to 1 s (and keeps `MinTime`), e.g. times
−5 s and −3 s give [−5 s, 1 s] -/
theorem range_negative_example : normalise 10000 (record [-50000, -30000]) = (-50000, 10000) := by decide +kernel

end Shk.C12
