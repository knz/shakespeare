import ShkModel.Lemmas.Stopper
/-! Invariants of the stopper's global state (the counters count calls, the flags follow the position of the effective
Stop, what no step undoes) and of the log as a whole (what a step may append, the channel states its entries carry, the
balance of limited calls and bodies, the markers); the invariants of single calls build on these. -/
namespace Shk.Stopper

theorem Rule.cap {s s' : St} {i : Nat} {t : Thread} (h : Rule s i t s') : s'.cap = s.cap := by
  cases h <;> rfl

theorem cap_reach {cap : Nat} {s : St} (h : Reach cap s) : s.cap = cap := by
  induction h using Reach.rules with
  | init => rfl
  | spawn s k _ ih => exact ih
  | step s s' i t _ _ _ r ih => exact r.cap.trans ih

structure Cnt (s : St) : Prop where
  tasks : s.numTasks = s.threads.countP inTask
  wg : s.wg = s.threads.countP inWg
  sem : s.sem = s.threads.countP holdsSem

theorem Rule.counts {s s' : St} {i : Nat} {t : Thread} (h : Rule s i t s') :
    ∃ t', s'.threads = s.threads.set i t' ∧
      s'.numTasks = s.numTasks + (inTask t').toNat - (inTask t).toNat ∧
      s'.wg = s.wg + (inWg t').toNat - (inWg t).toNat ∧
      s'.sem = s.sem + (holdsSem t').toNat - (holdsSem t).toNat := by
  cases h
  case ret => exact ⟨_, rfl, (Nat.add_sub_cancel ..).symm, (Nat.add_sub_cancel ..).symm, (Nat.add_sub_cancel ..).symm⟩
  all_goals exact ⟨_, rfl, rfl, rfl, rfl⟩

theorem cnt_reach {cap : Nat} {s : St} (h : Reach cap s) : Cnt s := by
  induction h using Reach.rules with
  | init => exact ⟨rfl, rfl, rfl⟩
  | spawn s k _ ih =>
    obtain ⟨c1, c2, c3⟩ := ih
    constructor <;> simp [spawn, inTask, inWg, holdsSem, List.countP_append] <;> assumption
  | step s s' i t _ _ ht r ih =>
    obtain ⟨t', e, e1, e2, e3⟩ := r.counts
    exact ⟨by rw [e, e1, countP_set _ _ ht, ih.tasks], by rw [e, e2, countP_set _ _ ht, ih.wg],
      by rw [e, e3, countP_set _ _ ht, ih.sem]⟩

theorem Cnt.not_inTask {s : St} (c : Cnt s) (h0 : s.numTasks = 0) {j : Nat} {t : Thread} (ht : s.threads[j]? = some t) :
    inTask t = false :=
  countP_zero_not (c.tasks.symm.trans h0) (List.mem_of_getElem? ht)

theorem Cnt.not_inWg {s : St} (c : Cnt s) (h0 : s.wg = 0) {j : Nat} {t : Thread} (ht : s.threads[j]? = some t) :
    inWg t = false :=
  countP_zero_not (c.wg.symm.trans h0) (List.mem_of_getElem? ht)

/-- the flags as the position of the effective Stop determines them -/
structure Ph (s : St) : Prop where
  sclosed : s.sClosed = decide (4 ≤ s.sp.rank)
  dclosed : s.dClosed = decide (s.sp.rank = 6)
  quiescing : 2 ≤ s.sp.rank → s.quiescing = true
  drained : 3 ≤ s.sp.rank → s.numTasks = 0
  idle : s.stopCalled = false → s.sp = .idle
  called : 1 ≤ s.sp.rank → s.stopCalled = true
  semcap : s.sem ≤ s.cap

theorem Ph.of_called {s : St} (a : s.sClosed = decide (4 ≤ s.sp.rank)) (b : s.dClosed = decide (s.sp.rank = 6))
    (c : 2 ≤ s.sp.rank → s.quiescing = true) (d : 3 ≤ s.sp.rank → s.numTasks = 0) (hc : s.stopCalled = true)
    (e : s.sem ≤ s.cap) : Ph s :=
  ⟨a, b, c, d, fun h => Bool.noConfusion (h.symm.trans hc), fun _ => hc, e⟩

theorem Rule.ph {s s' : St} {i : Nat} {t : Thread} (h : Rule s i t s') (p : Ph s) : Ph s' := by
  obtain ⟨p1, p2, p3, p4, p5, p6, p7⟩ := p
  cases h
  -- runPrelude counts a task only while not quiescing, hence before the effective Stop waits for the drain
  case accept q | acceptA q | acceptL q =>
    exact ⟨p1, p2, p3, fun h => Bool.noConfusion (q.symm.trans (p3 (Nat.le_of_succ_le h))), p5, p6, p7⟩
  case leave | leaveA | leaveL => exact ⟨p1, p2, p3, fun h => congrArg (· - 1) (p4 h), p5, p6, p7⟩
  case acquire c => exact ⟨p1, p2, p3, p4, p5, p6, c⟩
  case giveBack | release => exact ⟨p1, p2, p3, p4, p5, p6, Nat.le_trans (Nat.sub_le ..) p7⟩
  case quiesce => exact ⟨p1, p2, fun _ => rfl, p4, p5, p6, p7⟩
  case stopBegin c => rw [p5 c] at p1 p2; exact .of_called p1 p2 nofun nofun rfl p7
  -- the effective Stop moves on: `stopCalled` has been set since it began
  case stopQuiesce p => rw [p] at p1 p2 p6; exact .of_called p1 p2 (fun _ => rfl) nofun (p6 (by decide)) p7
  case stopDrained p n =>
    rw [p] at p1 p2 p3 p6; exact .of_called p1 p2 (fun _ => p3 (by decide)) (fun _ => n) (p6 (by decide)) p7
  case stopClose p =>
    rw [p] at p2 p3 p4 p6; exact .of_called rfl p2 (fun _ => p3 (by decide)) (fun _ => p4 (by decide)) (p6 (by decide)) p7
  case stopWaited p n =>
    rw [p] at p1 p2 p3 p4 p6
    exact .of_called p1 p2 (fun _ => p3 (by decide)) (fun _ => p4 (by decide)) (p6 (by decide)) p7
  case stopCloser p _ => rw [p] at p1 p2 p3 p4 p6; exact .of_called p1 p2 p3 p4 (p6 (by decide : 1 ≤ 5)) p7
  case stopStopped p _ =>
    rw [p] at p1 p3 p4 p6
    exact .of_called p1 rfl (fun _ => p3 (by decide : 2 ≤ 5)) (fun _ => p4 (by decide : 3 ≤ 5)) (p6 (by decide : 1 ≤ 5)) p7
  all_goals exact ⟨p1, p2, p3, p4, p5, p6, p7⟩

theorem ph_reach {cap : Nat} {s : St} (h : Reach cap s) : Ph s := by
  induction h using Reach.rules with
  | init => constructor <;> simp [init]
  | spawn s k _ ih => exact ⟨ih.1, ih.2, ih.3, ih.4, ih.5, ih.6, ih.7⟩
  | step s s' i t _ _ _ r ih => exact r.ph ih

theorem Ph.s_q {s : St} (p : Ph s) (h : s.sClosed = true) : s.quiescing = true := by
  have := p.sclosed; rw [h] at this
  exact p.quiescing (by simp at this; omega)
theorem Ph.d_s {s : St} (p : Ph s) (h : s.dClosed = true) : s.sClosed = true := by
  have h1 := p.dclosed; rw [h] at h1
  rw [p.sclosed]; simp at h1 ⊢; omega
theorem Ph.s_tasks {s : St} (p : Ph s) (h : s.sClosed = true) : s.numTasks = 0 := by
  have := p.sclosed; rw [h] at this
  exact p.drained (by simp at this; omega)

def Sampled (s : St) (e : Ev) : Prop := e.q = s.quiescing ∧ e.s = s.sClosed ∧ e.d = s.dClosed ∧ e.n = s.sem

/-- what a step of call `i` may append: about itself or a registered closer or cancel function, sampled before the step
or (the marker of the channel it closes) after it -/
def New (s s' : St) (i c : Nat) (e : Ev) : Prop :=
  ((e.id = i ∧ (e.k = .mark ∨ e.c = c)) ∨ (e.k = .closer ∧ e.c = 5 ∧ e.id ∈ s.closers) ∨
    (e.k = .cancelled ∧ e.c = 6 ∧ e.id ∈ s.qCancels) ∨ (e.k = .cancelled ∧ e.c = 7 ∧ e.id ∈ s.sCancels)) ∧
  (Sampled s e ∨ Sampled s' e)

theorem new_own {s s' : St} {i c : Nat} (k : EK) (v : Nat) : New s s' i c (s.ev k i c v) :=
  ⟨.inl ⟨rfl, .inr rfl⟩, .inl ⟨rfl, rfl, rfl, rfl⟩⟩

theorem new_quiesceEvs {s s' : St} {i c : Nat} (h : Sampled s' ⟨.mark, i, 0, 0, true, s.sClosed, s.dClosed, s.sem⟩) :
    ∀ e ∈ s.quiesceEvs i, New s s' i c e := by
  refine List.forall_mem_append.mpr
    ⟨forall_mem_cancelEvs.mpr fun x hx => ⟨.inr (.inr (.inl ⟨rfl, rfl, hx⟩)), .inl ⟨rfl, rfl, rfl, rfl⟩⟩, ?_⟩
  split
  · exact List.forall_mem_nil _
  · exact List.forall_mem_singleton.mpr ⟨.inl ⟨rfl, .inl rfl⟩, .inr h⟩

theorem Rule.news {s s' : St} {i : Nat} {t : Thread} (h : Rule s i t s') :
    ∃ es, s'.log = s.log ++ es ∧ ∀ e ∈ es, New s s' i t.kind.code e := by
  cases h
  all_goals refine ⟨_, rfl, ?_⟩
  case start | startA | startL | finish | finishA | finishL | wStart | wEnd | closerNow | wcqNow | wcsNow | probe |
      wcqCancel | wcsCancel | ret =>
    exact List.forall_mem_singleton.mpr (new_own ..)
  case quiesce | stopQuiesce => exact new_quiesceEvs ⟨rfl, rfl, rfl, rfl⟩
  case stopDrained | stopWaited => exact List.forall_mem_singleton.mpr ⟨.inl ⟨rfl, .inl rfl⟩, .inl ⟨rfl, rfl, rfl, rfl⟩⟩
  case stopClose =>
    exact List.forall_mem_append.mpr
      ⟨forall_mem_cancelEvs.mpr fun x hx => ⟨.inr (.inr (.inr ⟨rfl, rfl, hx⟩)), .inl ⟨rfl, rfl, rfl, rfl⟩⟩,
        List.forall_mem_singleton.mpr ⟨.inl ⟨rfl, .inl rfl⟩, .inr ⟨rfl, rfl, rfl, rfl⟩⟩⟩
  case stopCloser hc =>
    exact List.forall_mem_singleton.mpr ⟨.inr (.inl ⟨rfl, rfl, List.mem_of_getElem? hc⟩), .inl ⟨rfl, rfl, rfl, rfl⟩⟩
  case stopStopped => exact List.forall_mem_singleton.mpr ⟨.inl ⟨rfl, .inl rfl⟩, .inr ⟨rfl, rfl, rfl, rfl⟩⟩
  all_goals exact List.forall_mem_nil _

/-- no step opens a channel again, nor counts a task once the drain is over -/
structure Mono (s s' : St) : Prop where
  q : s.quiescing = true → s'.quiescing = true
  sc : s.sClosed = true → s'.sClosed = true
  dc : s.dClosed = true → s'.dClosed = true
  tasks0 : s.quiescing = true → s.numTasks = 0 → s'.numTasks = 0

theorem Rule.mono {s s' : St} {i : Nat} {t : Thread} (h : Rule s i t s') : Mono s s' := by
  cases h
  case accept q | acceptA q | acceptL q => exact ⟨id, id, id, fun hq => Bool.noConfusion (q.symm.trans hq)⟩
  case leave | leaveA | leaveL => exact ⟨id, id, id, fun _ h0 => congrArg (· - 1) h0⟩
  case quiesce | stopQuiesce => exact ⟨fun _ => rfl, id, id, fun _ => id⟩
  case stopClose => exact ⟨id, fun _ => rfl, id, fun _ => id⟩
  case stopStopped => exact ⟨id, id, fun _ => rfl, fun _ => id⟩
  all_goals exact ⟨id, id, id, fun _ => id⟩

theorem mono_spawn (s : St) (k : Kind) : Mono s (spawn s k) :=
  ⟨id, id, id, fun _ => id⟩

/-- the effective Stop gets past `stop.Wait()` only at count zero -/
theorem Rule.gate {s s' : St} {i : Nat} {t : Thread} (h : Rule s i t s') (a : s.sp.rank < 5) (b : 5 ≤ s'.sp.rank) :
    s.sp = .wg ∧ s.wg = 0 := by
  cases h
  case stopWaited p n => exact ⟨p, n⟩
  case stopBegin | stopQuiesce | stopDrained | stopClose => simp [St.upd] at b
  case stopCloser p _ | stopStopped p _ => simp [p] at a
  all_goals exact absurd b (Nat.not_le_of_lt a)

/-- the section that closes a channel fires the cancel functions registered for it -/
theorem Rule.fire {s s' : St} {i : Nat} {t : Thread} (h : Rule s i t s') :
    (s'.quiescing = s.quiescing ∨ ∀ c ∈ s.qCancels, has s'.log .cancelled c = true) ∧
    (s'.sClosed = s.sClosed ∨ ∀ c ∈ s.sCancels, has s'.log .cancelled c = true) := by
  cases h
  case quiesce | stopQuiesce =>
    exact ⟨.inr fun c hc => by simp [St.upd, St.quiesceEvs, has_cancelEvs, hc], .inl rfl⟩
  case stopClose => exact ⟨.inl rfl, .inr fun c hc => by simp [St.upd, has_cancelEvs, hc]⟩
  all_goals exact ⟨.inl rfl, .inl rfl⟩

def FlagsOn (l : List Ev) (q s d : Bool) (cap : Nat) : Prop :=
  ∀ e ∈ l, (e.q = true → q = true) ∧ (e.s = true → s = true) ∧ (e.d = true → d = true) ∧
    (e.d = true → e.s = true) ∧ (e.s = true → e.q = true) ∧ e.n ≤ cap

def FlagsInv (s : St) : Prop := FlagsOn s.log s.quiescing s.sClosed s.dClosed s.cap

theorem Sampled.flags {s : St} {e : Ev} (h : Sampled s e) (p : Ph s) {q sc d : Bool} (hq : s.quiescing = true → q = true)
    (hs : s.sClosed = true → sc = true) (hd : s.dClosed = true → d = true) :
    (e.q = true → q = true) ∧ (e.s = true → sc = true) ∧ (e.d = true → d = true) ∧
      (e.d = true → e.s = true) ∧ (e.s = true → e.q = true) ∧ e.n ≤ s.cap := by
  obtain ⟨a, b, c, n⟩ := h
  rw [a, b, c, n]
  exact ⟨hq, hs, hd, p.d_s, p.s_q, p.semcap⟩

theorem flags_reach {cap : Nat} {s : St} (h : Reach cap s) : FlagsInv s := by
  induction h using Reach.rules with
  | init => exact List.forall_mem_nil _
  | spawn s k hr ih =>
    intro e he
    rcases List.mem_append.mp he with he | he
    · exact ih e he
    · cases List.mem_singleton.mp he
      exact Sampled.flags ⟨rfl, rfl, rfl, rfl⟩ (ph_reach hr) id id id
  | step s s' i t hr _ _ r ih =>
    obtain ⟨es, hl, hn⟩ := r.news
    have m := r.mono
    have p := ph_reach hr
    intro e he
    rw [hl] at he
    rw [r.cap]
    rcases List.mem_append.mp he with he | he
    · obtain ⟨f1, f2, f3, f4⟩ := ih e he
      exact ⟨fun x => m.q (f1 x), fun x => m.sc (f2 x), fun x => m.dc (f3 x), f4⟩
    · rcases (hn e he).2 with h | h
      · exact h.flags p m.q m.sc m.dc
      · exact r.cap ▸ h.flags (r.ph p) id id id

structure BalInv (s : St) : Prop where
  body : cnt s.log .bodyStart = cnt s.log .bodyEnd + s.threads.countP limRunning
  call : cnt s.log .call = cnt s.log .ret + s.threads.countP limOpen

theorem bal_move {l es : List Ev} {kb ke : EK} {p : Thread → Bool} {ts : List Thread} {i : Nat} {t t' : Thread}
    (ih : cnt l kb = cnt l ke + ts.countP p) (ht : ts[i]? = some t)
    (h : (p t').toNat + cnt es ke = (p t).toNat + cnt es kb) :
    cnt (l ++ es) kb = cnt (l ++ es) ke + (ts.set i t').countP p := by
  have := toNat_le_countP (p := p) ht
  rw [cnt_append, cnt_append, countP_set _ _ ht]
  omega

theorem bal_frame {l es : List Ev} {kb ke : EK} {p : Thread → Bool} {ts : List Thread} {i : Nat} {t t' : Thread}
    (ih : cnt l kb = cnt l ke + ts.countP p) (ht : ts[i]? = some t) (hb : cnt es kb = 0) (he : cnt es ke = 0)
    (hp : p t' = p t) : cnt (l ++ es) kb = cnt (l ++ es) ke + (ts.set i t').countP p :=
  bal_move ih ht (by rw [hb, he, hp])

theorem Rule.bal {s s' : St} {i : Nat} {t : Thread} (h : Rule s i t s') (ht : s.threads[i]? = some t) (b : BalInv s) :
    BalInv s' := by
  obtain ⟨b1, b2⟩ := b
  have q : ∀ x {k}, k ≠ .cancelled → k ≠ .mark → cnt (s.quiesceEvs x) k = 0 := fun x _ h1 h2 =>
    cnt_of_hasK (hasK_quiesceEvs s x h1 h2)
  have c : ∀ {k} (e : Ev), k ≠ .cancelled → cnt (s.cancelEvs s.sCancels 7 ++ [e]) k = cnt [e] k := fun e h => by
    rw [cnt_append, cnt_of_hasK (hasK_cancelEvs _ _ _ h), Nat.zero_add]
  cases h
  -- a limited body's entries come with the call entering and leaving `running`
  case startL w _ | finishL w _ => cases w <;> exact ⟨bal_move b1 ht rfl, bal_frame b2 ht rfl rfl rfl⟩
  case quiesce | stopQuiesce =>
    exact ⟨bal_frame b1 ht (q _ (by decide) (by decide)) (q _ (by decide) (by decide)) rfl,
      bal_frame b2 ht (q _ (by decide) (by decide)) (q _ (by decide) (by decide)) rfl⟩
  case stopClose =>
    exact ⟨bal_frame b1 ht (c _ (by decide)) (c _ (by decide)) rfl, bal_frame b2 ht (c _ (by decide)) (c _ (by decide)) rfl⟩
  case ret k pc v _ =>
    refine ⟨bal_frame b1 ht rfl rfl rfl, bal_move b2 ht ?_⟩
    simp [limOpen, St.ev, isLimCode_code]
    cases k.isLimited <;> rfl
  all_goals exact ⟨bal_frame b1 ht rfl rfl rfl, bal_frame b2 ht rfl rfl rfl⟩

theorem bal_reach {cap : Nat} {s : St} (h : Reach cap s) : BalInv s := by
  induction h using Reach.rules with
  | init => exact ⟨rfl, rfl⟩
  | spawn s k _ ih =>
    obtain ⟨c1, c2⟩ := ih
    constructor <;> simp [spawn, limRunning, limOpen, List.countP_append, St.ev, isLimCode_code]
    · omega
    · cases k.isLimited <;> simp <;> omega
  | step s s' i t _ _ ht r ih => exact r.bal ht ih

def ActiveInv (s : St) : Prop :=
  s.threads.countP activeStop ≤ 1 ∧ (s.stopCalled = false → s.threads.countP activeStop = 0)

theorem Rule.active {s s' : St} {i : Nat} {t : Thread} (h : Rule s i t s') :
    ∃ t', s'.threads = s.threads.set i t' ∧
      ((activeStop t' = activeStop t ∧ s'.stopCalled = s.stopCalled) ∨
       (s.stopCalled = false ∧ s'.stopCalled = true ∧ activeStop t = false) ∨
       (activeStop t' = false ∧ s'.stopCalled = s.stopCalled)) := by
  cases h
  -- only the Stop call that finds `stopCalled` unset becomes effective
  case stopBegin c => exact ⟨_, rfl, .inr (.inl ⟨c, rfl, rfl⟩)⟩
  case stopReturn => exact ⟨_, rfl, .inr (.inr ⟨rfl, rfl⟩)⟩
  all_goals exact ⟨_, rfl, .inl ⟨rfl, rfl⟩⟩

theorem active_reach {cap : Nat} {s : St} (h : Reach cap s) : ActiveInv s := by
  induction h using Reach.rules with
  | init => exact ⟨Nat.zero_le _, fun _ => rfl⟩
  | spawn s k _ ih =>
    have e : (s.threads ++ [({ kind := k } : Thread)]).countP activeStop = s.threads.countP activeStop := by
      simp [List.countP_append, activeStop]
    exact ⟨e ▸ ih.1, fun h => e ▸ ih.2 h⟩
  | step s s' i t _ _ ht r ih =>
    obtain ⟨t', e, h⟩ := r.active
    have h1 := toNat_le_countP (p := activeStop) ht
    have h2 := Bool.toNat_le (activeStop t')
    obtain ⟨c1, c2⟩ := ih
    rw [ActiveInv, e, countP_set _ _ ht]
    rcases h with ⟨a, b⟩ | ⟨a, b, c⟩ | ⟨a, b⟩
    · rw [a, b]; exact ⟨by omega, fun h => by have := c2 h; omega⟩
    · rw [b, c]; have := c2 a; exact ⟨by simp; omega, nofun⟩
    · rw [a, b]; exact ⟨by simp; omega, fun h => by have := c2 h; simp; omega⟩

def MarksInv (s : St) : Prop := markSeq s.log = [0, 1, 2, 3, 4].take (phase s)

theorem marks_frame {s s' : St} {es : List Ev} (ih : MarksInv s) (hl : s'.log = s.log ++ es) (hm : markSeq es = [])
    (hd : s'.dClosed = s.dClosed) (hsp : s'.sp = s.sp) (hq : s'.quiescing = s.quiescing) : MarksInv s' := by
  unfold MarksInv phase
  rw [hl, markSeq_append, hm, List.append_nil, hd, hsp, hq]
  exact ih

theorem Rule.marks {s s' : St} {i : Nat} {t : Thread} (h : Rule s i t s') (ph : Ph s) (ih : MarksInv s) : MarksInv s' := by
  have hd := ph.dclosed
  have hq := ph.quiescing
  unfold MarksInv phase at ih ⊢
  cases h
  -- Quiesce writes marker 0 iff `quiescing` was unset: then Stop is not past `quiesce` (`hq`) and the phase goes 0 → 1
  case quiesce =>
    simp only [St.upd, markSeq_append, markSeq_quiesceEvs, ih]
    cases hqq : s.quiescing
    · cases hsp : s.sp <;> simp [hsp, hqq] at hq hd ⊢ <;> simp [hd]
    · simp
  case stopBegin c =>
    simp only [St.upd, List.append_nil, ph.idle c] at ih ⊢
    exact ih
  case stopQuiesce p =>
    simp [p] at hd
    simp [St.upd, markSeq_quiesceEvs, ih, p, hd]
    cases s.quiescing <;> rfl
  -- from `wait` on the phase follows `sp`: each section of Stop raises it by one and writes the next marker, the closer
  -- loop does neither
  case stopDrained p _ | stopClose p | stopWaited p _ | stopCloser p _ | stopStopped p _ =>
    simp [p] at hd hq
    simp [St.upd, St.ev, markSeq_of_hasK (hasK_cancelEvs _ _ _ (k := .mark) (by decide)), ih, p, hd, hq]
  all_goals exact marks_frame ih rfl rfl rfl rfl rfl

theorem marks_reach {cap : Nat} {s : St} (h : Reach cap s) : MarksInv s := by
  induction h using Reach.rules with
  | init => rfl
  | spawn s k _ ih => exact marks_frame ih rfl rfl rfl rfl rfl
  | step s s' i t hr _ _ r ih => exact r.marks (ph_reach hr) ih

end Shk.Stopper
