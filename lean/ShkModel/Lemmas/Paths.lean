import ShkModel.Model.Paths
import ShkModel.Lemmas.Order
/-! Helper lemmas for C12/C13: the algebra of `filepath.Clean`, what `run()` leaves behind in terms of
the exit status, and the time range as a cover of the recorded instants. -/
namespace Shk.Paths
variable {α : Type}

/-- a stack of the relative mode never holds an empty or `.` component -/
def Good (st : List (Comp α)) : Prop := ∀ c ∈ st, c ≠ Comp.empty ∧ c ≠ Comp.dot

theorem good_nil : Good ([] : List (Comp α)) := nofun

theorem good_cons {c : Comp α} {st : List (Comp α)} : Good (c :: st) ↔ (c ≠ .empty ∧ c ≠ .dot) ∧ Good st :=
  List.forall_mem_cons

theorem good_step (ab : Bool) (st : List (Comp α)) (c : Comp α) (h : Good st) : Good (step ab st c) := by
  have up {r : List (Comp α)} (hr : Good r) : Good (Comp.up :: r) := good_cons.2 ⟨⟨nofun, nofun⟩, hr⟩
  cases c with
  | empty => exact h
  | dot => exact h
  | nm a => exact good_cons.2 ⟨⟨nofun, nofun⟩, h⟩
  | up =>
    cases st with
    | nil =>
      cases ab
      · exact up good_nil
      · exact good_nil
    | cons t r =>
      cases t with
      | up => exact up h
      | _ => exact (good_cons.1 h).2

theorem good_fold (ab : Bool) (y : List (Comp α)) : ∀ st, Good st → Good (y.foldl (step ab) st) := by
  induction y with
  | nil => intro st h; exact h
  | cons c y ih => intro st h; exact ih _ (good_step ab st c h)

/-- replaying one more component: cleaning the (relative) cleaned prefix gives the same stack -/
theorem fold_step_rel (a : Bool) (S T : List (Comp α)) (c : Comp α) (hT : Good T) :
    (step false T c).reverse.foldl (step a) S = step a (T.reverse.foldl (step a) S) c := by
  have snoc (x : Comp α) (r : List (Comp α)) :
      (x :: r).reverse.foldl (step a) S = step a (r.reverse.foldl (step a) S) x := by
    rw [List.reverse_cons, List.foldl_append]; rfl
  cases c with
  | empty => rfl
  | dot => rfl
  | nm x => exact snoc _ T
  | up =>
    cases T with
    | nil => rfl
    | cons t r =>
      cases t with
      | up => exact snoc _ _
      | nm x => rw [snoc]; rfl
      | empty => exact absurd rfl (good_cons.1 hT).1.1
      | dot => exact absurd rfl (good_cons.1 hT).1.2

theorem fold_clean_rel_gen (a : Bool) (S : List (Comp α)) (y : List (Comp α)) :
    ∀ T, Good T → (T.reverse ++ y).foldl (step a) S = (y.foldl (step false) T).reverse.foldl (step a) S := by
  induction y with
  | nil => intro T _; simp
  | cons c y ih =>
    intro T hT
    rw [List.foldl_cons, ← ih (step false T c) (good_step false T c hT)]
    rw [List.foldl_append, List.foldl_append, List.foldl_cons, fold_step_rel a S T c hT]

/-- `Clean(x + "/" + Clean(y)) = Clean(x + "/" + y)` at the level of stacks, for a relative `y` -/
theorem fold_clean_rel (a : Bool) (S : List (Comp α)) (y : List (Comp α)) :
    (cleanComps false y).foldl (step a) S = y.foldl (step a) S :=
  (fold_clean_rel_gen a S y [] good_nil).symm

theorem names_reverse (ns : List α) : (names ns).reverse = names ns.reverse := List.map_reverse.symm

theorem names_append (a b : List α) : names (a ++ b) = names a ++ names b := List.map_append

theorem fold_names (a : Bool) (ns : List α) : ∀ S : List (Comp α),
    (names ns).foldl (step a) S = (names ns).reverse ++ S := by
  induction ns with
  | nil => intro S; rfl
  | cons n ns ih => intro S; exact (ih _).trans (by simp [names, step])

theorem abs_stack_names (y : List (Comp α)) : ∀ ms : List α,
    ∃ ns : List α, y.foldl (step true) (names ms) = names ns := by
  induction y with
  | nil => intro ms; exact ⟨ms, rfl⟩
  | cons c y ih =>
    intro ms
    cases c with
    | empty => exact ih ms
    | dot => exact ih ms
    | nm a => exact ih (a :: ms)
    | up =>
      cases ms with
      | nil => exact ih []
      | cons m r => exact ih r

theorem fold_reverse_names (a : Bool) (ns : List α) : (names ns).reverse.foldl (step a) [] = names ns := by
  rw [names_reverse, fold_names, names_reverse, List.reverse_reverse, List.append_nil]

theorem cleanComps_names (a : Bool) (ns : List α) : cleanComps a (names ns) = names ns := by
  rw [cleanComps, fold_names, List.append_nil, List.reverse_reverse]

theorem fold_cleanComps (ab : Bool) (y : List (Comp α)) :
    (cleanComps ab y).foldl (step ab) [] = y.foldl (step ab) [] := by
  cases ab
  · exact fold_clean_rel false [] y
  · obtain ⟨ms, hms⟩ := abs_stack_names y ([] : List α)
    rw [cleanComps, show y.foldl (step true) [] = names ms from hms, fold_reverse_names]

theorem join_join (q : P α) (m1 m2 : List (Comp α)) : join (join q m1) m2 = join q (m1 ++ m2) := by
  simp only [join, clean, cleanComps, ← List.append_assoc]
  rw [List.foldl_append, List.foldl_append (l := q.comps ++ m1), ← cleanComps, fold_cleanComps]

section Abs
variable (cwd : List α) (o : P α)

/-- the stack reached after walking the current directory and then `o` (or `o` alone when absolute) -/
def base : List (Comp α) :=
  if o.abs then o.comps.foldl (step true) [] else (names cwd ++ o.comps).foldl (step true) []

theorem absolutize_eq : absolutize cwd o = ⟨true, (base cwd o).reverse⟩ := by
  unfold absolutize base clean
  cases o.abs <;> rfl

theorem base_names : ∃ ns : List α, base cwd o = names ns := by
  unfold base
  split
  · exact abs_stack_names o.comps []
  · rw [List.foldl_append, fold_names, List.append_nil, names_reverse]
    exact abs_stack_names o.comps _

theorem base_join (more : List (Comp α)) :
    base cwd (join o more) = more.foldl (step true) (base cwd o) := by
  unfold base join clean
  cases o.abs
  · simp only [Bool.false_eq_true, if_false, List.foldl_append, fold_clean_rel]
  · simp only [if_true, fold_cleanComps, List.foldl_append]

theorem absolutize_join (more : List (Comp α)) :
    absolutize cwd (join o more) = ⟨true, (more.foldl (step true) (base cwd o)).reverse⟩ := by
  rw [absolutize_eq, base_join]

theorem absolutize_join_names (ms : List α) :
    absolutize cwd (join o (names ms)) = ⟨true, (absolutize cwd o).comps ++ names ms⟩ := by
  rw [absolutize_join, absolutize_eq, fold_names, List.reverse_append, List.reverse_reverse]

/-- the kernel's rule for a relative link text met at the end of the walk of `o`: cleaning what `Abs(o)` followed by
`more` spells is the walk of `Join(o, more)` -/
theorem clean_absolutize_append (more : List (Comp α)) :
    clean ⟨true, (absolutize cwd o).comps ++ more⟩ = absolutize cwd (join o more) := by
  obtain ⟨ns, hns⟩ := base_names cwd o
  rw [absolutize_join, absolutize_eq, hns]
  simp only [clean, cleanComps, List.foldl_append, fold_reverse_names]

theorem resolveLink_latest (latest : α) (t : P α) (ht : t.abs = false) :
    resolveLink cwd (join o [Comp.nm latest]) t = absolutize cwd (join o t.comps) := by
  have ha : (absolutize cwd (join o [Comp.nm latest])).comps.dropLast = (absolutize cwd o).comps :=
    (congrArg (·.comps.dropLast) (absolutize_join_names cwd o [latest])).trans List.dropLast_concat
  rw [resolveLink, if_neg (ht ▸ Bool.false_ne_true), ha, clean_absolutize_append]

/-- `thisDataDir` is `Join(o, sub)` as far as a walk can tell, also when there is no sub-directory -/
theorem absolutize_runDir (latest : α) (sub : List α) :
    absolutize cwd (prepareDirs latest o sub).runDir = absolutize cwd (join o (names sub)) := by
  unfold prepareDirs
  split
  · next h => rw [h, absolutize_join, absolutize_eq]; rfl
  · rfl

end Abs

theorem removeAll_of_clear {f : Flags} {b : Bool} (h : f.clear = some b) : removeAll f = b := by
  rw [removeAll, h]; rfl

section RunEnd
variable (f : Flags) (e : Faults)

theorem foulFlag_eq : (runEnd f e).foulFlag = e.play := by rfl

theorem playFailed_eq : (runEnd f e).playFailed = (e.play || (!f.skipPlot && e.plot)) := by rfl

theorem uploaded_eq : (runEnd f e).uploaded = ((!(runEnd f e).playFailed || !e.interrupted) && f.upload) := by rfl

theorem exit_eq : (runEnd f e).exitNonZero = ((runEnd f e).playFailed || ((runEnd f e).uploaded && e.upload)) := by rfl

theorem result_eq : (runEnd f e).result = (runEnd f e).runDir := by rfl

theorem plots_eq : (runEnd f e).plots = (!f.skipPlot && !e.plot && (runEnd f e).runDir) := by rfl

theorem runDir_eq : (runEnd f e).runDir = ((runEnd f e).exitNonZero || !removeAll f) :=
  (Bool.not_and _ _).trans (congrArg (· || _) (Bool.not_not _))

theorem artifacts_eq :
    (runEnd f e).artifacts
      = (!(!(runEnd f e).playFailed && !f.k && (!removeAll f || f.upload)) && (runEnd f e).runDir) := by rfl

theorem uploadedArtifacts_eq :
    (runEnd f e).uploadedArtifacts
      = ((runEnd f e).uploaded && !(!(runEnd f e).playFailed && !f.k && (!removeAll f || f.upload))) := by rfl

theorem exit_of_no_upload (h : f.upload = false) : (runEnd f e).exitNonZero = (runEnd f e).playFailed := by
  rw [exit_eq, uploaded_eq, h, Bool.and_false, Bool.false_and, Bool.or_false]

theorem artifacts_kept : (runEnd f e).artifacts = (((runEnd f e).playFailed || f.k) && (runEnd f e).runDir) := by
  rw [artifacts_eq]
  cases hu : f.upload
  · -- the deferred removal spares the artifacts of a clean play without `-k` only when the directory is to be
    -- cleared; without an upload nothing can fail any more, and the directory goes with them
    rw [runDir_eq, exit_of_no_upload f e hu]
    cases (runEnd f e).playFailed <;> cases f.k <;> cases removeAll f <;> rfl
  · cases (runEnd f e).playFailed <;> cases f.k <;> simp

theorem uploadedArtifacts_kept :
    (runEnd f e).uploadedArtifacts = ((runEnd f e).uploaded && ((runEnd f e).playFailed || f.k)) := by
  rw [uploadedArtifacts_eq, uploaded_eq]
  cases f.upload
  · simp
  · cases (runEnd f e).playFailed <;> cases f.k <;> simp

end RunEnd

theorem expand_fst (r : Range) (u : Int) :
    (expand r u).map (·.1) = some ((r.map (·.1)).elim u fun a => if u < a then u else a) := by
  cases r <;> rfl

theorem expand_snd (r : Range) (u : Int) :
    (expand r u).map (·.2) = some ((r.map (·.2)).elim u fun b => if b < u then u else b) := by
  cases r <;> rfl

theorem record_covers {ts : List Int} {t : Int} (h : t ∈ ts) : ∃ lo hi, record ts = some (lo, hi) ∧ lo ≤ t ∧ t ≤ hi := by
  obtain ⟨lo, hi, hlo, hhi, h⟩ := covers_foldl expand_fst expand_snd (s := none) (.inl h)
  unfold record
  generalize ts.foldl expand none = r at hlo hhi
  cases r with
  | none => cases hlo
  | some p => cases hlo; cases hhi; exact ⟨_, _, rfl, h⟩

theorem normalise_covers {sec lo hi t : Int} (hsec : 0 ≤ sec) (h1 : lo ≤ t) (h2 : t ≤ hi) :
    (normalise sec (some (lo, hi))).1 ≤ t ∧ t ≤ (normalise sec (some (lo, hi))).2 := by
  have hs : (if hi < lo then (hi, lo) else (lo, hi)) = (lo, hi) := if_neg (Int.not_lt.mpr (Int.le_trans h1 h2))
  -- a range left of 0 is closed at one second: this is where the second must not be negative
  have h5 : hi ≤ (if hi < 0 then sec else hi) := by
    split
    · exact Int.le_trans (Int.le_of_lt ‹_›) hsec
    · exact Int.le_refl hi
  simp only [normalise, hs]
  exact ⟨Int.le_trans (ite_lt_le 0 _).2 h1, Int.le_trans h2 (Int.le_trans h5 (le_ite_lt _ _).1)⟩

theorem normalise_shape (sec : Int) (r : Range) :
    (normalise sec r).1 ≤ 0 ∧ (normalise sec r).1 + sec ≤ (normalise sec r).2 :=
  ⟨(ite_lt_le 0 _).1, (le_ite_lt _ _).2⟩

end Shk.Paths
