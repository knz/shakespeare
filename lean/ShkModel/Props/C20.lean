import ShkModel.Props.C09
import ShkModel.Lemmas.PreprocRe
/-! # C20 — parameters and includes expand exactly where and how the manual says (partial)

Models: `ShkModel/Model/Preproc.lean` (`preprocReplace` as a byte scanner for `~\w+~`, the
parameter table) and `ShkModel/Model/Reader.lean` (include lookup and depth limit).

The theorems say HOW a text is substituted, how the table is built and which file an include
uses.  WHICH fields of which clause are routed through `preprocReplace` is decided by the
regexp-driven clause parsers, which are not modelled: that part is established by the
correspondence K-C20 (vlib/c20.py) only. -/
namespace Shk.C20
open Shk.Preproc Shk.Reader

/-- Every text has exactly one decomposition into copied bytes and occurrences
`~name~` (`Decomp`: scanning left to right, a match of `~\w+~` is taken wherever one starts, and
scanning resumes behind its closing `~`; otherwise one byte is copied).  The decomposition spells
the input, and the result of `preprocReplace` is the concatenation of: the byte itself for a
copied byte, the value for an occurrence whose name is defined, the occurrence unchanged for one
whose name is not — nothing else changes. -/
theorem subst_exact (t : Table) (s : Bytes) :
    ∃ segs, Decomp s segs ∧ (∀ segs', Decomp s segs' → segs' = segs) ∧
      segs.flatMap Seg.render = s ∧
      (preprocReplace t s).1 = segs.flatMap (Seg.expand t) ∧
      (∀ c, Seg.expand t (.lit c) = [c]) ∧
      (∀ w v, lookup t w = some v → Seg.expand t (.occ w) = v) ∧
      (∀ w, lookup t w = none → Seg.expand t (.occ w) = tilde :: w ++ [tilde]) := by
  have hd := scan_decomp s
  refine ⟨scan s, hd, fun segs' h => decomp_unique segs' s h, decomp_render _ _ hd, rfl,
    fun _ => rfl, ?_, ?_⟩
  · intro w v h; simp [Seg.expand, h]
  · intro w h; simp [Seg.expand, h]

/-- The value of a defined parameter is emitted as it is — whatever it contains,
`~x~` with `x` defined included — and scanning resumes in the INPUT behind the occurrence. -/
theorem no_rescan (t : Table) (w v r : Bytes) (hw : WordName w) (hv : lookup t w = some v) :
    (preprocReplace t (tilde :: w ++ tilde :: r)).1 = v ++ (preprocReplace t r).1 := by
  simp only [preprocReplace, scan_cons_occ w r hw, List.flatMap_cons, Seg.expand, hv]

/-- with `a = "~b~"` and `b = "B"`, `~a~` becomes `~b~`, not `B` -/
theorem no_rescan_witness :
    (preprocReplace [([97], [126, 98, 126]), ([98], [66])] [126, 97, 126]).1 = [126, 98, 126] := by decide +kernel

/-- The names reported as undefined are exactly the occurrences of the
decomposition whose name is not in the table, in order of occurrence (with repetitions); the
error is absent iff there is none. -/
theorem undefined_named (t : Table) (s : Bytes) :
    ∃ segs, Decomp s segs ∧ (preprocReplace t s).2 = segs.filterMap (Seg.undef t) ∧
      (∀ c, Seg.undef t (.lit c) = none) ∧
      (∀ w, Seg.undef t (.occ w) = if lookup t w = none then some w else none) := by
  refine ⟨scan s, scan_decomp s, rfl, fun _ => rfl, ?_⟩
  intro w
  cases h : lookup t w <;> simp [Seg.undef, h]

/-- an undefined occurrence is left in the text as it is -/
theorem undefined_kept (t : Table) (w r : Bytes) (hw : WordName w) (hv : lookup t w = none) :
    (preprocReplace t (tilde :: w ++ tilde :: r)).1 = tilde :: w ++ tilde :: (preprocReplace t r).1 ∧
    (preprocReplace t (tilde :: w ++ tilde :: r)).2 = w :: (preprocReplace t r).2 := by
  simp only [preprocReplace, scan_cons_occ w r hw, List.flatMap_cons, List.filterMap_cons, Seg.expand, Seg.undef, hv]
  simp

/-- a text that starts with bytes other than `~` keeps them, and substitution goes on behind them as if the text
started there: what stands before an occurrence never influences how it is expanded -/
theorem plain_prefix_kept (t : Table) (p r : Bytes) (hp : ∀ c ∈ p, c ≠ tilde) :
    (preprocReplace t (p ++ r)).1 = p ++ (preprocReplace t r).1 ∧
    (preprocReplace t (p ++ r)).2 = (preprocReplace t r).2 := by
  induction p with
  | nil => exact ⟨rfl, rfl⟩
  | cons c p ih =>
    have ih' := ih fun x hx => hp x (List.mem_cons_of_mem _ hx)
    have hs : scan (c :: (p ++ r)) = Seg.lit c :: scan (p ++ r) := by
      rw [scan_cons, if_neg (hp c List.mem_cons_self)]
    simp only [preprocReplace, List.cons_append, hs, List.flatMap_cons, List.filterMap_cons, Seg.expand, Seg.undef] at ih' ⊢
    exact ⟨congrArg (c :: ·) ih'.1, ih'.2⟩

/-- **no `~`, no change.**  A text without any `~` is left exactly as it is, whatever the table holds, and nothing is
reported undefined. -/
theorem no_tilde_identity (t : Table) (s : Bytes) (hs : ∀ c ∈ s, c ≠ tilde) :
    preprocReplace t s = (s, []) := by
  have := plain_prefix_kept t s [] hs
  have h0 : preprocReplace t [] = ([], []) := rfl
  simp only [List.append_nil, h0] at this
  exact Prod.ext this.1 this.2

/-- With an empty table every text comes out as it went in. -/
theorem empty_table_identity (s : Bytes) : (preprocReplace [] s).1 = s := by
  have h : Seg.expand [] = Seg.render := funext fun sg => by cases sg <;> rfl
  show (scan s).flatMap (Seg.expand []) = s
  rw [h]
  exact decomp_render _ _ (scan_decomp s)

example : preprocReplace [([97], [66])] [120, 32, 61, 32, 49] = ([120, 32, 61, 32, 49], []) := by decide +kernel
example : (preprocReplace [] [126, 97, 126, 32, 126]) = ([126, 97, 126, 32, 126], [[97]]) := by decide +kernel

/-- the table after the command line (`-D` in order) and the `parameter … defaults to` clauses in
reading order answers like the plain list "defines, then defaults" searched from the front -/
theorem table_lookup (ds : List Bytes) (ps : List (Bytes × Bytes)) (n : Bytes) :
    lookup (withDefaults (fromDefines ds) ps) n = lookup (ds.map splitDefine ++ ps) n := by
  have h := lookup_foldl_define id ps (fromDefines ds) n
  rw [List.map_id] at h
  exact h.trans (lookup_congr_append ps n (lookup_foldl_define splitDefine ds [] n))

/-- A value given with `-D` wins over every `parameter … defaults to`. -/
theorem define_wins (ds : List Bytes) (ps : List (Bytes × Bytes)) (n v : Bytes)
    (h : lookup (fromDefines ds) n = some v) : lookup (withDefaults (fromDefines ds) ps) n = some v := by
  exact (lookup_foldl_define id ps _ n).trans (by rw [lookup_append, h])

/-- A definition never changes a binding that exists: among `-D` definitions the first one wins,
among defaults the first one read. -/
theorem first_wins (t : Table) (n v m x : Bytes) (h : lookup t n = some v) :
    lookup (define t m x) n = some v := by
  rw [lookup_define, lookup_append, h]

/-- … the second case spelled out: two defaults for a name that no `-D` defines -/
theorem first_default_wins (ds : List Bytes) (n v v' : Bytes) (ps : List (Bytes × Bytes))
    (h : lookup (fromDefines ds) n = none) :
    lookup (withDefaults (fromDefines ds) ((n, v) :: (n, v') :: ps)) n = some v := by
  exact (lookup_foldl_define id _ _ n).trans (by rw [lookup_append, h]; exact if_pos rfl)

/-- When `readLine` follows an include directive, the file it opens is
the first candidate that exists, in the documented order: the directory of the including file,
then the search path (`-I` directories in order, then `.`), the name being the directive's
argument after substitution (which had no undefined parameter). -/
theorem include_first_hit (fs : FS) (ipath : List Name) (tbl : Table) (r : Frame) (below : List Frame)
    (hinv : Inv fs (r :: below)) (c r' : Frame)
    (h : readLine fs ipath tbl (r :: below) = .skip (c :: r' :: below)) :
    ∃ arg pre p post, goDir r'.file :: ipath = pre ++ p :: post ∧
      c.file = goJoin p (preprocReplace tbl arg).1 ∧
      (∀ q ∈ pre, fs (goJoin q (preprocReplace tbl arg).1) = .missing) ∧
      (∃ b t bad, fs c.file = .file b t bad) ∧ (preprocReplace tbl arg).2 = [] := by
  have hsp := readLine_spec (fs := fs) ipath tbl (r :: below) hinv
  rw [h] at hsp
  exact hsp.2.2 c r' below rfl (by simp)

/-- the search path always ends up containing `.` (`initArgs`) -/
theorem local_dir_searched (ipath : List Name) : [dot] ∈ withLocalDir ipath := by
  unfold withLocalDir
  split
  · rename_i h; simpa using h
  · simp

/-- An include directive read by the tenth frame is refused (`C09.depth_refused`, which also locates the error). -/
theorem depth_refused (fs : FS) (ipath : List Name) (tbl : Table) (r : Frame) (below : List Frame)
    (hinv : Inv fs (r :: below)) (hten : below.length + 1 = 10)
    {text : Bytes} {rest : List Bytes} {k : Nat} {eof : Bool}
    (hg : gather r.tail r.bad [] r.rest 0 = .line text rest k eof)
    (hinc : (includeArg (trimSpace text)).isSome = true) (hni : ignoreLine (trimSpace text) = false) :
    ∃ d, readLine fs ipath tbl (r :: below) = .err d ∧ d.kind = .depth := by
  obtain ⟨d, h1, h2, _⟩ := Shk.C09.depth_refused fs ipath tbl r below hinv hten hg hinc hni
  exact ⟨d, h1, h2⟩

section scanner_regexp
open Shk.Re Shk.Tpl Shk.PreprocRe

/-- **the scanner is the regexp.**  From any position of any text, the regenerated `preprocRe` (`~\w+~` in the Go
source) matches exactly where the scanner of `Model/Preproc.lean` finds an occurrence, in one way, and ends where
the scanner resumes. -/
theorem scanner_is_preprocRe (s : List Char) (p : Nat) (c : Caps) (hp : p ≤ s.length) :
    ms s Gen.preprocRe ⟨p, c⟩ =
      match s.drop p with
      | ch :: t =>
        if ch.toNat = tilde then
          match matchAt (t.map Char.toNat) with
          | some w => [⟨p + w.length + 2, c⟩]
          | none => []
        else []
      | [] => [] :=
  ms_preprocRe s p c

/-- **the scanner walks the text exactly as `ReplaceAllStringFunc` does with the regenerated `preprocRe`**: the
occurrences it finds, with their positions, are the non-overlapping leftmost matches of the regexp -/
theorem scan_is_findAll (s : List Char) : ∀ (fuel p : Nat) (t : List Char), s.drop p = t → p ≤ s.length →
    t.length ≤ fuel → occSpans (scan (t.map Char.toNat)) p = findAll Gen.preprocRe s fuel p := by
  intro fuel p t hd _ hf
  subst hd
  exact scan_findAll s fuel p (List.length_drop ▸ hf)

/-- non-vacuity: the two occurrences of `a ~x~ ~~y~` at [2,5) and [7,10) -/
example : findAll Gen.preprocRe "a ~x~ ~~y~".toList 10 0 = [(2, 5), (7, 10)] ∧
    occSpans (scan ("a ~x~ ~~y~".toList.map Char.toNat)) 0 = [(2, 5), (7, 10)] := by decide +kernel

/-- non-vacuity: `a ~x~ ~~y~` — occurrences at 2 and 7, none at 6 -/
example : (ms "a ~x~ ~~y~".toList Gen.preprocRe ⟨2, []⟩, ms "a ~x~ ~~y~".toList Gen.preprocRe ⟨6, []⟩,
    ms "a ~x~ ~~y~".toList Gen.preprocRe ⟨7, []⟩) = ([⟨5, []⟩], [], [⟨10, []⟩]) := by decide +kernel

end scanner_regexp

/-- `"a ~x~ ~~y~ ~z~."` with `x = "1~y~"`, `y = "2"`: → `"a 1~y~ ~2 ~z~."`, undefined: `z` -/
example :
    preprocReplace [([120], [49, 126, 121, 126]), ([121], [50])]
      [97, 32, 126, 120, 126, 32, 126, 126, 121, 126, 32, 126, 122, 126, 46] =
      ([97, 32, 49, 126, 121, 126, 32, 126, 50, 32, 126, 122, 126, 46], [[122]]) := by decide +kernel

/-- `-Dx=1 -Dx=2 -Dy` then `parameter x defaults to 3`, `parameter z defaults to 4` -/
example :
    withDefaults (fromDefines [[120, 61, 49], [120, 61, 50], [121]]) [([120], [51]), ([122], [52])] =
      [([120], [49]), ([121], []), ([122], [52])] := by decide +kernel

example : WordName [120] := ⟨by simp, by decide⟩

end Shk.C20
