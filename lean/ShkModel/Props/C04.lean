import ShkModel.Lemmas.Prompt
/-!
# C04 — scenes run in script order, behind barriers, never ahead of the tempo

Model: `ShkModel/Model/Prompt.lean` (`runLine`, `runScene`, `runScenes`, `loop`, `perform` mirror
`prompter.prompt` / `runScene` / `runLine` of `pkg/cmd/prompt.go` over an abstract clock).  All that
the operating system decides — duration and exit status of each command, the delay before each
command, scene and act, the `repeat time` decisions — is the input `env : Env` (total functions), so
"for every `env`" means: for every choice of durations and every scheduling.  `fuel` bounds the
number of act occurrences (`repeat always` never ends); every theorem holds for every fuel.

A trace is the list of records of the performed actions; `r.pos.actOcc` counts act *occurrences*
(it grows with every act played, repetitions included), so "group (actOcc, scene) before group
(actOcc', scene')" covers acts in sequence, repetitions in sequence and scene groups in sequence.
-/
namespace Shk.C04
open Shk.Prompt

variable (env : Env) (play : Play) (rp : Repeat) (fuel : Nat)

/-- Every record is well-formed: start ≤ stop; its position is a position of the script (act,
scene, line and step indices in range) and actor, action and `?` mark are those of the script; the
recorded duration and status are those the command experienced. -/
theorem records_wellformed : ∀ r ∈ (perform env play rp fuel).1, WellFormed env play r :=
  fun r hr => ((perform_acts env play rp fuel).src r hr).wellFormed

/-- Steps of one line (same act occurrence, scene, line) run in the listed order, each starting
after the previous one stopped. -/
theorem line_order : lineOrderOk (perform env play rp fuel).1 = true :=
  (perform_acts env play rp fuel).seq.lineOrder

/-- … the same, spelled out. -/
theorem line_order_explicit : ∀ r ∈ (perform env play rp fuel).1, ∀ q ∈ (perform env play rp fuel).1,
    r.pos.actOcc = q.pos.actOcc → r.pos.scene = q.pos.scene → r.pos.line = q.pos.line →
    r.pos.step < q.pos.step → r.stop ≤ q.start :=
  fun r hr q hq h1 h2 h3 h4 =>
    ((perform_acts env play rp fuel).seq r hr q hq (Or.inr ⟨h1, Or.inr ⟨h2, h3, h4⟩⟩)).2

/-- **Barrier**: no action of a group starts before every action of every earlier group (earlier
act occurrence, or same occurrence and earlier scene) has finished.  Hence acts are sequential,
repetitions are sequential and the scene groups of an act are sequential. -/
theorem barrier : barrierOk (perform env play rp fuel).1 = true :=
  (perform_acts env play rp fuel).seq.barrier

/-- … the same, spelled out. -/
theorem barrier_explicit : ∀ r ∈ (perform env play rp fuel).1, ∀ q ∈ (perform env play rp fuel).1,
    (r.pos.actOcc < q.pos.actOcc ∨ (r.pos.actOcc = q.pos.actOcc ∧ r.pos.scene < q.pos.scene)) →
    r.stop ≤ q.start :=
  fun r hr q hq h =>
    ((perform_acts env play rp fuel).seq r hr q hq (h.imp_right fun h => ⟨h.1, Or.inl h.2⟩)).2

/-- Every record belongs to a recorded act occurrence, of the act it names, whose start time is
`actStartOf`. -/
theorem act_occurrence_recorded : ∀ r ∈ (perform env play rp fuel).1,
    (r.pos.actOcc, r.pos.act, actStartOf env play rp fuel r.pos.actOcc) ∈ performOccs env play rp fuel := by
  intro r hr
  obtain ⟨_, _, _, t0, _, _, _, _, h4, _⟩ := (perform_acts env play rp fuel).src r hr
  rw [actStartOf_eq h4]; exact h4

/-- **Tempo**: no action of scene `k` starts earlier than `waitUntil k` (= column index × tempo in
the compiled play) after the start of its act occurrence. -/
theorem tempo_lower_bound_explicit : ∀ r ∈ (perform env play rp fuel).1, ∀ act s,
    play[r.pos.act]? = some act → act[r.pos.scene]? = some s →
    actStartOf env play rp fuel r.pos.actOcc + s.waitUntil ≤ r.start := by
  intro r hr act s h1 h2
  obtain ⟨act', s', l, t0, t1, g1, g2, _, h4, h5, h6, _⟩ := (perform_acts env play rp fuel).src r hr
  cases h1.symm.trans g1; cases h2.symm.trans g2
  obtain ⟨_, t', _, _, h7, e, _⟩ := runLine_mem h6
  rw [actStartOf_eq h4, e]
  simp only [mkRec]; omega

/-- … the same, as the predicate `tempoOk` that is evaluated on observed traces. -/
theorem tempo_lower_bound :
    tempoOk play (actStartOf env play rp fuel) (perform env play rp fuel).1 = true := by
  simp only [tempoOk, List.all_eq_true]
  intro r hr
  obtain ⟨act, s, _, _, _, h1, h2, _⟩ := (perform_acts env play rp fuel).src r hr
  rw [h1, Option.bind_some, h2]
  exact decide_eq_true (tempo_lower_bound_explicit env play rp fuel r hr act s h1 h2)

/-- A later act occurrence starts at or after every stop of an earlier one (in particular
occurrence `ao + 1` after every action of occurrence `ao`). -/
theorem act_starts_monotone : ∀ r ∈ (perform env play rp fuel).1, ∀ o ∈ performOccs env play rp fuel,
    r.pos.actOcc < o.1 → r.stop ≤ actStartOf env play rp fuel o.1 := by
  intro r hr o ho hlt
  rw [actStartOf_eq ho]
  exact (perform_acts env play rp fuel).occs_mono.1 r hr o ho hlt

/-- Act occurrences start in the order of their numbers. -/
theorem act_starts_ordered : ∀ o ∈ performOccs env play rp fuel, ∀ o' ∈ performOccs env play rp fuel,
    o.1 < o'.1 → actStartOf env play rp fuel o.1 ≤ actStartOf env play rp fuel o'.1 := by
  intro o ho o' ho' hlt
  rw [actStartOf_eq ho, actStartOf_eq ho']
  exact (perform_acts env play rp fuel).occs_mono.2 o ho o' ho' hlt

/-- **Distinct lines run concurrently**: within a scene started at `t` in which no line fails, the records of line
`ln` are exactly those of that line run alone from `t`, and they depend on the environment only through the decisions
for that very line — not on how long the other lines take.

(The hypothesis is what the real prompter needs: when a line fails, `runScene` cancels the other lines of the scene half
a second later — an action in flight is killed and recorded as failed, no further action of those lines starts.  That
abort is timing, the model has none of it: `runScene` runs every line to its end, so for the model the equation holds
without the hypothesis too — `concurrent_lines_independent_model` below.  What the aborted lines record is checked on
real plays, C04 / C05 "abort plays".) -/
theorem concurrent_lines_independent (env' : Env) (ao a sc t : Nat) (lines : List Line) (ln : Nat) (l : Line)
    (hl : lines[ln]? = some l)
    (_hok : (runScene env ao a sc t 0 lines).2.2 = true)
    (henv : ∀ k, env.occ ⟨ao, a, sc, ln, k⟩ = env'.occ ⟨ao, a, sc, ln, k⟩) :
    (runScene env ao a sc t 0 lines).1.filter (fun r => r.pos.line == ln) =
      (runLine env' ao a sc ln l.actor 0 t l.steps).1 :=
  runScene_line hl henv

/-- the same equation for every scene of the *model* (which does not abort the other lines of a failing scene) -/
theorem concurrent_lines_independent_model (env' : Env) (ao a sc t : Nat) (lines : List Line) (ln : Nat) (l : Line)
    (hl : lines[ln]? = some l)
    (henv : ∀ k, env.occ ⟨ao, a, sc, ln, k⟩ = env'.occ ⟨ao, a, sc, ln, k⟩) :
    (runScene env ao a sc t 0 lines).1.filter (fun r => r.pos.line == ln) =
      (runLine env' ao a sc ln l.actor 0 t l.steps).1 :=
  runScene_line hl henv

/-- The scene ends (barrier / WaitGroup) no earlier than any of its actions, and starts them no
earlier than its own start. -/
theorem scene_window (ao a sc t : Nat) (lines : List Line) :
    ∀ r ∈ (runScene env ao a sc t 0 lines).1,
      t ≤ r.start ∧ r.start ≤ r.stop ∧ r.stop ≤ (runScene env ao a sc t 0 lines).2.1 :=
  runScene_bnd

/-- **The barrier waits for nothing else**: a scene with an action ends exactly when its last action stops — some
record of the scene has that very stop time — and a scene without any action ends when it starts.  Together with
`scene_window` (no record stops later): end of scene = the latest stop.  Whatever delays the next scene beyond that
is the operating system's (`sceneJitter`) or the tempo (`waitUntil`), never the barrier. -/
theorem barrier_releases_at_last_stop (ao a sc t : Nat) (lines : List Line) :
    ((runScene env ao a sc t 0 lines).1 = [] ∧ (runScene env ao a sc t 0 lines).2.1 = t) ∨
    ∃ r ∈ (runScene env ao a sc t 0 lines).1,
      r.stop = (runScene env ao a sc t 0 lines).2.1 ∧
      ∀ q ∈ (runScene env ao a sc t 0 lines).1, q.stop ≤ r.stop :=
  runScene_end_attained.imp_right fun ⟨r, hr, he⟩ => ⟨r, hr, he, fun q hq => he ▸ (runScene_bnd q hq).2.2⟩

/-- a line ends exactly when its last performed step stops: nothing is awaited after it -/
theorem line_ends_at_last_stop (ao a sc ln t : Nat) (l : Line) :
    ((runLine env ao a sc ln l.actor 0 t l.steps).1 = [] ∧ (runLine env ao a sc ln l.actor 0 t l.steps).2.1 = t) ∨
    ∃ r ∈ (runLine env ao a sc ln l.actor 0 t l.steps).1, r.stop = (runLine env ao a sc ln l.actor 0 t l.steps).2.1 :=
  runLine_end_attained

/-! ## Non-vacuity: a concrete performance (`Shk.Prompt.Ex`) -/

-- seven actions are performed, in three act occurrences (act 2 is played twice)
example : (perform Ex.env Ex.play Ex.rp 20).1.length = 7 := by decide +kernel
example : (perform Ex.env Ex.play Ex.rp 20).1.map (·.pos.actOcc) = [0, 0, 0, 0, 0, 1, 2] := by decide +kernel
-- records in different groups exist, so the barrier statement is not vacuous
example : ∃ r ∈ (perform Ex.env Ex.play Ex.rp 20).1, ∃ q ∈ (perform Ex.env Ex.play Ex.rp 20).1,
    r.pos.groupBefore q.pos = true ∧ r.stop ≤ q.start := by decide +kernel
-- two steps of one line exist, so the line-order statement is not vacuous
example : ∃ r ∈ (perform Ex.env Ex.play Ex.rp 20).1, ∃ q ∈ (perform Ex.env Ex.play Ex.rp 20).1,
    r.pos.actOcc = q.pos.actOcc ∧ r.pos.scene = q.pos.scene ∧ r.pos.line = q.pos.line ∧
      r.pos.step < q.pos.step := by decide +kernel
-- two lines of one scene overlap in time: they do run concurrently
example : ∃ r ∈ (perform Ex.env Ex.play Ex.rp 20).1, ∃ q ∈ (perform Ex.env Ex.play Ex.rp 20).1,
    r.pos.actOcc = q.pos.actOcc ∧ r.pos.scene = q.pos.scene ∧ r.pos.line ≠ q.pos.line ∧
      r.start < q.stop ∧ q.start < r.stop := by decide +kernel
-- `concurrent_lines_independent`: its hypotheses hold for line 0 of the first scene with an
-- environment in which line 1 is slow and fails; line 0's records are the same in both
example : (∀ k, Ex.env.occ ⟨0, 0, 0, 0, k⟩ = Ex.envSlowB.occ ⟨0, 0, 0, 0, k⟩) ∧
    Ex.env.occ ⟨0, 0, 0, 1, 0⟩ ≠ Ex.envSlowB.occ ⟨0, 0, 0, 1, 0⟩ := ⟨fun _ => rfl, by decide⟩
example : (runScene Ex.env 0 0 0 3 0 [⟨"a", [⟨"x", false⟩, ⟨"y", true⟩]⟩, ⟨"b", [⟨"z", false⟩]⟩]).1.filter
      (fun r => r.pos.line == 0) =
    (runScene Ex.envSlowB 0 0 0 3 0 [⟨"a", [⟨"x", false⟩, ⟨"y", true⟩]⟩, ⟨"b", [⟨"z", false⟩]⟩]).1.filter
      (fun r => r.pos.line == 0) := by decide +kernel
-- the act starts, and the spec predicates evaluated on the concrete trace
example : (performOccs Ex.env Ex.play Ex.rp 20) = [(0, 0, 2), (1, 1, 105), (2, 1, 138)] := by decide +kernel
example : barrierOk (perform Ex.env Ex.play Ex.rp 20).1 = true := by decide +kernel
example : lineOrderOk (perform Ex.env Ex.play Ex.rp 20).1 = true := by decide +kernel
example : tempoOk Ex.play (actStartOf Ex.env Ex.play Ex.rp 20) (perform Ex.env Ex.play Ex.rp 20).1 = true := by
  decide +kernel
-- the predicates do reject wrong traces: a second group that starts before the first has stopped, an action ahead of the tempo
example : barrierOk [⟨⟨0, 0, 0, 0, 0⟩, "a", "x", 0, 10, true, false⟩, ⟨⟨0, 0, 1, 0, 0⟩, "a", "x", 9, 12, true, false⟩] = false := by
  decide +kernel
example : tempoOk Ex.play (fun _ => 0) [⟨⟨0, 0, 1, 0, 0⟩, "a", "x", 49, 60, true, false⟩] = false := by decide +kernel

-- the scene of the example ends with its slowest line
example : ∃ r ∈ (runScene Ex.env 0 0 0 3 0 [⟨"a", [⟨"x", false⟩, ⟨"y", true⟩]⟩, ⟨"b", [⟨"z", false⟩]⟩]).1,
    r.stop = (runScene Ex.env 0 0 0 3 0 [⟨"a", [⟨"x", false⟩, ⟨"y", true⟩]⟩, ⟨"b", [⟨"z", false⟩]⟩]).2.1 ∧ 3 < r.stop := by decide +kernel

end Shk.C04
