import ShkModel.Lemmas.Pipeline
/-!
# C08 — each matching spotlight line yields exactly one correctly valued data point

* `Spot.pointsOf` is the specification: the points a list of lines denotes for one signal of one
  actor (one per matching, parsable line, in line order).
* `Spot.detectLine` models `detectSignals` (one call per line, grouping by time stamp, sorting);
  `Spot.detectAll` / `Spot.detectMulti` (in `Lemmas/Spot.lean`) thread the delta state over the
  lines of one actor / of several interleaved actors.
* `Aud.beginRound`, `Aud.round`, `Aud.run` model the audit loop that forwards every sample to the
  collector as one `Out.obs`.

Part 1 (`detect_*`): the model of `detectSignals` emits exactly the samples of `pointsOf`.
Part 2 (`delta_value`, `event_text`, `scalar_value`, `ts_kind`): what the points are; after it `malformed_*`:
an unparsable capture drops its point and nothing else.
Part 3 (`forwarded_*`): the audit loop forwards each sample exactly once.
Parts 1 and 3 composed (`rows_exact`): from the lines to the observations in the output of the audition; and the
collector hands each observation to every watching observer once (`rows_per_observer`).
All statements are for arbitrary signal lists, sink predicates, actors and line lists.
-/
namespace Shk.C08
open Shk Shk.Aud Shk.Spot

/-! ## Part 1 — `detectSignals` emits exactly the points of the specification -/

/-- **detect_points**.  For a signal `sd` of the role that has a sink and whose name is unique among
the role's signals, the samples emitted for it over all the lines of the actor from the start of the
play (`raw₋₁ = 0`) — in emission order, with the stamp of the event carrying them — are exactly
the points `pointsOf` denotes: one per matching parsable line, in line order, none otherwise;
each sample carries the signal's type, the variable `[actor sd.name]` and the point's value.
(`Spot.detectAll_key` is the same from any delta state.) -/
theorem detect_points (epoch : Rat) (sigs : List SigDef) (hasSink : String → Bool)
    (actor : String) (sd : SigDef) (hs : hasSink sd.name = true)
    (hu : sigs.filter (fun x => x.name == sd.name) = [sd]) (lines : List (List Char)) :
    samplesOf actor sd.name (detectAll epoch sigs hasSink actor [] lines).2 =
      (pointsOf epoch sd 0 lines).map (Point.toSample actor sd) :=
  (detectAll_key epoch actor hs hu [] lines).2

/-- the (stamp, value) reading of `detect_points` -/
theorem detect_points_values (epoch : Rat) (sigs : List SigDef) (hasSink : String → Bool)
    (actor : String) (sd : SigDef) (hs : hasSink sd.name = true)
    (hu : sigs.filter (fun x => x.name == sd.name) = [sd]) (lines : List (List Char)) :
    (samplesOf actor sd.name (detectAll epoch sigs hasSink actor [] lines).2).map
        (fun x => (x.1, x.2.val)) =
      (pointsOf epoch sd 0 lines).map fun p => (p.stamp, Val.sc p.val) := by
  rw [detect_points epoch sigs hasSink actor sd hs hu lines, List.map_map]
  rfl

/-- the same under the configuration invariant "signal names are unique in a role" -/
theorem detect_points_nodup (epoch : Rat) (sigs : List SigDef) (hasSink : String → Bool)
    (actor : String) (sd : SigDef) (hm : sd ∈ sigs) (hn : (sigs.map (·.name)).Nodup)
    (hs : hasSink sd.name = true) (lines : List (List Char)) :
    samplesOf actor sd.name (detectAll epoch sigs hasSink actor [] lines).2 =
      (pointsOf epoch sd 0 lines).map (Point.toSample actor sd) :=
  detect_points epoch sigs hasSink actor sd hs (filter_key_of_nodup SigDef.name sigs sd hm hn) lines

/-- the delta state of `(actor, sd.name)` evolves as the `last` argument of `pointsOf` -/
theorem detect_state (epoch : Rat) (sigs : List SigDef) (hasSink : String → Bool)
    (actor : String) (sd : SigDef) (hs : hasSink sd.name = true)
    (hu : sigs.filter (fun x => x.name == sd.name) = [sd]) (lasts : Lasts) (lines : List (List Char)) :
    (detectAll epoch sigs hasSink actor lasts lines).1.get (actor, sd.name) =
      lastAfter epoch sd (lasts.get (actor, sd.name)) lines :=
  (detectAll_key epoch actor hs hu lasts lines).1

/-- per line: at most one sample per watched signal, namely the one `sampleOf` denotes -/
theorem detect_line (epoch : Rat) (sigs : List SigDef) (hasSink : String → Bool)
    (actor : String) (sd : SigDef) (hs : hasSink sd.name = true)
    (hu : sigs.filter (fun x => x.name == sd.name) = [sd]) (lasts : Lasts) (line : List Char) :
    samplesOf actor sd.name (detectLine epoch sigs hasSink actor lasts line).2 =
      (sampleOf epoch sd (lasts.get (actor, sd.name)) line).2.toList.map (Point.toSample actor sd) ∧
    (samplesOf actor sd.name (detectLine epoch sigs hasSink actor lasts line).2).length ≤ 1 := by
  have h := (detectLine_key epoch actor lasts line hs hu).2
  refine ⟨h, ?_⟩
  rw [h, List.length_map]
  cases (sampleOf epoch sd (lasts.get (actor, sd.name)) line).2 <;> simp

/-- a signal without a sink (no observer watches it) yields nothing, whatever the lines -/
theorem detect_no_sink (epoch : Rat) (sigs : List SigDef) (hasSink : String → Bool)
    (actor : String) (name : String) (hs : hasSink name = false) (lasts : Lasts)
    (lines : List (List Char)) :
    samplesOf actor name (detectAll epoch sigs hasSink actor lasts lines).2 = [] :=
  detectAll_other epoch (n := name) (fun _ _ h => Bool.false_ne_true (hs.symm.trans ((Prod.mk.inj h.2).2 ▸ h.1)))
    lasts lines

/-- nothing is ever emitted for a variable of another actor or a signal the role does not have -/
theorem detect_foreign (epoch : Rat) (sigs : List SigDef) (hasSink : String → Bool)
    (actor a n : String) (h : a ≠ actor ∨ ∀ sd ∈ sigs, sd.name ≠ n) (lasts : Lasts)
    (lines : List (List Char)) :
    samplesOf a n (detectAll epoch sigs hasSink actor lasts lines).2 = [] :=
  detectAll_other epoch (fun sd hsd e => h.elim (· (Prod.mk.inj e.2).1.symm) (· sd hsd (Prod.mk.inj e.2).2))
    lasts lines

/-- every emitted sample is well-formed: non-nil value, the actor's variable, a watched signal of
the role, that signal's type -/
theorem detect_wf (epoch : Rat) (sigs : List SigDef) (hasSink : String → Bool) (actor : String)
    (lasts : Lasts) (line : List Char) :
    ∀ e ∈ (detectLine epoch sigs hasSink actor lasts line).2, ∀ s ∈ e.samples,
      s.val.isNil = false ∧ s.v.actor = actor ∧
        ∃ sd ∈ sigs, hasSink sd.name = true ∧ s.v.sig = sd.name ∧ s.typ = sd.typ :=
  detectLine_wf epoch sigs hasSink actor lasts line

/-- **any number of actors per role**: with the lines of several actors interleaved in any way
(one shared delta table keyed by actor and signal, as in the code), the samples of `[a sd.name]`
are the points of the lines of actor `a` alone. -/
theorem detect_points_multi (epoch : Rat) (sigs : List SigDef) (hasSink : String → String → Bool)
    (a : String) (sd : SigDef) (hs : hasSink a sd.name = true)
    (hu : sigs.filter (fun x => x.name == sd.name) = [sd]) (als : List (String × List Char)) :
    samplesOf a sd.name (detectMulti epoch sigs hasSink [] als).2 =
      (pointsOf epoch sd 0 (linesOf a als)).map (Point.toSample a sd) :=
  (detectMulti_key epoch hs hu [] als).2

/-! ### Non-vacuity of Part 1

The test vectors are evaluated by the kernel.  A long string literal is first rewritten into the list of
its characters (`String.toList_ofList`: a literal is `String.ofList` of them by definition): left to unfold
`String.toList`, the kernel decodes the UTF-8 bytes one by one, at a cost quadratic in the length. -/

/-- three signals sharing the tag `v` (a delta, a scalar, and a scalar that `exSink` leaves without a sink) and an
event signal with a date -/
def exSigs : List SigDef :=
  [⟨"d", "v", .delta, .deltasecs, 0⟩, ⟨"s", "v", .scalar, .deltasecs, 0⟩, ⟨"e", "e", .event, .rfc3339, 0⟩,
   ⟨"unwatched", "v", .scalar, .deltasecs, 0⟩]

def exSink : String → Bool := fun n => n != "unwatched"

def exLines : List (List Char) :=
  ["12.5 v=3".toList, "noise".toList, "13 v=5".toList, "14 v=oops".toList,
   "2020-01-01T00:00:07.25Z e=hello".toList, "2020-13-01T00:00:07Z e=x".toList, "15 v=4".toList]

/-- the hypotheses of `detect_points` hold for the delta signal of the example -/
example : exSink "d" = true ∧ exSigs.filter (fun x => x.name == "d") = [⟨"d", "v", .delta, .deltasecs, 0⟩] := by
  decide +kernel

example : (exSigs.map (·.name)).Nodup := by decide +kernel

/-- … and the points are non-trivial: three deltas 3, 2, −1; the malformed `oops` is dropped -/
example : pointsOf 1577836800 ⟨"d", "v", .delta, .deltasecs, 0⟩ 0 exLines =
    [⟨.at (25/2), .num 3⟩, ⟨.at 13, .num 2⟩, ⟨.at 15, .num (-1)⟩] := by
  unfold exLines
  repeat rw [String.toList_ofList]
  decide +kernel

/-- the model of `detectSignals` on the same lines (both sides of `detect_points_values`) -/
example : (samplesOf "bob" "d" (detectAll 1577836800 exSigs exSink "bob" [] exLines).2).map
      (fun x => (x.1, x.2.val)) =
    [(.at (25/2), .sc (.num 3)), (.at 13, .sc (.num 2)), (.at 15, .sc (.num (-1)))] := by
  unfold exLines
  repeat rw [String.toList_ofList]
  decide +kernel

/-- the scalar signal with the same tag gets its own point from the same lines -/
example : (samplesOf "bob" "s" (detectAll 1577836800 exSigs exSink "bob" [] exLines).2).map
      (fun x => (x.1, x.2.val)) =
    [(.at (25/2), .sc (.num 3)), (.at 13, .sc (.num 5)), (.at 15, .sc (.num 4))] := by
  unfold exLines
  repeat rw [String.toList_ofList]
  decide +kernel

/-- the event with a date: one point 7.25 s after the epoch; the line with month 13 is dropped -/
example : (samplesOf "bob" "e" (detectAll 1577836800 exSigs exSink "bob" [] exLines).2).map
      (fun x => (x.1, x.2.val)) = [(.at (29/4), .sc (.str "hello"))] := by
  unfold exLines
  repeat rw [String.toList_ofList]
  decide +kernel

example : samplesOf "bob" "unwatched" (detectAll 1577836800 exSigs exSink "bob" [] exLines).2 = [] :=
  detect_no_sink _ _ _ _ _ (by decide +kernel) _ _

/-- uniqueness of the name is needed: a name declared twice yields two samples per line -/
example : (samplesOf "bob" "s" (detectLine 0 [⟨"s", "v", .scalar, .now, 0⟩, ⟨"s", "v", .scalar, .now, 0⟩]
      (fun _ => true) "bob" [] "v=1".toList).2).length = 2 := by decide +kernel

/-! ## Part 2 — the value and the time stamp of a point -/

/-- The list form of `delta_value` below: the points of a delta signal are the successive differences of
the raw readings (`rawOf`: lines that match with a parsable stamp and number), the first against
`last` (0 at the start of the play). -/
theorem delta_points (epoch : Rat) (sd : SigDef) (last : Rat) (lines : List (List Char))
    (h : sd.typ = .delta) :
    pointsOf epoch sd last lines = diffs last (lines.filterMap (rawOf epoch sd)) :=
  pointsOf_delta last lines h

/-- **delta_value**: there are as many points as raw readings, and the k-th point carries the
stamp of the k-th reading and the value `rawₖ − rawₖ₋₁`, with `raw₋₁ = 0`. -/
theorem delta_value (epoch : Rat) (sd : SigDef) (lines : List (List Char)) (h : sd.typ = .delta)
    (k : Nat) :
    (pointsOf epoch sd 0 lines).length = (lines.filterMap (rawOf epoch sd)).length ∧
    (pointsOf epoch sd 0 lines)[k]? =
      (lines.filterMap (rawOf epoch sd))[k]?.map fun r =>
        ⟨r.1, .num (r.2 - (((0 : Rat) :: (lines.filterMap (rawOf epoch sd)).map (·.2))[k]?).getD 0)⟩ := by
  rw [pointsOf_delta 0 lines h]
  exact ⟨diffs_length _ _, diffs_getElem? _ _ _⟩

/-- `delta_value` spelled out for the first point … -/
theorem delta_value_first (epoch : Rat) (sd : SigDef) (lines : List (List Char)) (h : sd.typ = .delta)
    (st : Stamp) (x : Rat) (h0 : (lines.filterMap (rawOf epoch sd))[0]? = some (st, x)) :
    (pointsOf epoch sd 0 lines)[0]? = some ⟨st, .num (x - 0)⟩ := by
  rw [(delta_value epoch sd lines h 0).2, h0]; rfl

/-- … and for any two consecutive readings -/
theorem delta_value_succ (epoch : Rat) (sd : SigDef) (lines : List (List Char)) (h : sd.typ = .delta)
    (k : Nat) (s0 s1 : Stamp) (x0 x1 : Rat)
    (h0 : (lines.filterMap (rawOf epoch sd))[k]? = some (s0, x0))
    (h1 : (lines.filterMap (rawOf epoch sd))[k + 1]? = some (s1, x1)) :
    (pointsOf epoch sd 0 lines)[k + 1]? = some ⟨s1, .num (x1 - x0)⟩ := by
  rw [(delta_value epoch sd lines h (k + 1)).2, h1]
  simp only [Option.map_some, List.getElem?_cons_succ, List.getElem?_map, h0]
  rfl

example : (exLines.filterMap (rawOf 0 ⟨"d", "v", .delta, .deltasecs, 0⟩)) =
    [(.at (25/2), 3), (.at 13, 5), (.at 15, 4)] := by
  unfold exLines
  repeat rw [String.toList_ofList]
  decide +kernel

/-- **event_text**: the points of an event signal are, line by line, the captured text under the
line's stamp; the delta state plays no role. -/
theorem event_text (epoch : Rat) (sd : SigDef) (last : Rat) (lines : List (List Char))
    (h : sd.typ = .event) :
    pointsOf epoch sd last lines =
      (lines.filterMap (textOf epoch sd)).map fun r => ⟨r.1, .str r.2⟩ :=
  pointsOf_event last lines h

/-- one line: pattern matched with an accepted stamp ⇒ the point carries the captured text -/
theorem event_text_line (epoch : Rat) (sd : SigDef) (last : Rat) (line v : List Char) (st : Stamp)
    (h : sd.typ = .event) (hm : matchSig epoch sd line = some (some st, v)) :
    sampleOf epoch sd last line = (last, some ⟨st, .str (String.ofList v)⟩) := by
  simp [sampleOf, hm, h]

/-- **scalar_value**: the points of a scalar signal are, line by line, the parsed number under
the line's stamp. -/
theorem scalar_value (epoch : Rat) (sd : SigDef) (last : Rat) (lines : List (List Char))
    (h : sd.typ = .scalar) :
    pointsOf epoch sd last lines =
      (lines.filterMap (rawOf epoch sd)).map fun r => ⟨r.1, .num r.2⟩ :=
  pointsOf_scalar last lines h

theorem scalar_value_line (epoch : Rat) (sd : SigDef) (last : Rat) (line v : List Char) (st : Stamp)
    (x : Rat) (h : sd.typ = .scalar) (hm : matchSig epoch sd line = some (some st, v))
    (hx : parseFloat v = some x) :
    sampleOf epoch sd last line = (last, some ⟨st, .num x⟩) := by
  simp [sampleOf, hm, h, hx]

theorem delta_value_line (epoch : Rat) (sd : SigDef) (last : Rat) (line v : List Char) (st : Stamp)
    (x : Rat) (h : sd.typ = .delta) (hm : matchSig epoch sd line = some (some st, v))
    (hx : parseFloat v = some x) :
    sampleOf epoch sd last line = (x, some ⟨st, .num (x - last)⟩) := by
  simp [sampleOf, hm, h, hx]

/-- the captured text is what follows `<tag>=` up to the end of the record, non-empty and free of
white space; before the tag there is nothing (ts_now) or the time stamp and one blank.  The record
of a pattern is the whole line, the part before the first ` | ` or the part after the last one. -/
theorem captured_text (epoch : Rat) (sd : SigDef) (line v : List Char) (st : Option Stamp)
    (hpos : sd.pos ≠ 3) (hm : matchSig epoch sd line = some (st, v)) :
    ∃ rec, recordOf sd.pos line = some rec ∧
    v ≠ [] ∧ v.all (fun c => !isSp c) = true ∧
    ∃ pre, rec = pre ++ (sd.tag.toList ++ '=' :: v) ∧
      (sd.ts = .now → pre = []) ∧
      (sd.ts = .deltasecs ∨ sd.ts = .rfc3339 → pre = rec.takeWhile (· != ' ') ++ [' ']) ∧
      (sd.ts = .log → pre = rec.take 22 ++ [' ']) := by
  obtain ⟨rec, hrec, hm⟩ := matchSig_rec epoch sd line _ hpos hm
  obtain ⟨h1, h2, pre, h3, hk⟩ := matchRec_some epoch sd rec v st hm
  refine ⟨rec, hrec, h1, h2, pre, h3, ?_⟩
  revert hk
  cases sd.ts <;> intro hk
  · exact ⟨fun _ => hk.1, nofun, nofun⟩
  · exact ⟨nofun, fun _ => hk.1, nofun⟩
  · exact ⟨nofun, fun _ => hk.1, nofun⟩
  · exact ⟨nofun, nofun, fun _ => hk.1⟩

/-- the leftmost-first search of an unanchored pattern: the capture is the longest run of the value
class right after the FIRST place where `pre` is followed by a character of the class — a part of
the line, never the line itself with something substituted -/
theorem findTagged_spec (pre : List Char) (isVal : Char → Bool) (line v : List Char)
    (h : findTagged pre isVal line = some v) :
    ∃ before after, line = before ++ pre ++ v ++ after ∧ v ≠ [] ∧ v.all isVal = true ∧
      (after.head?.map isVal).getD false = false ∧
      ∀ b1 b2, before = b1 ++ b2 → b2 ≠ [] →
        ¬ ((b2 ++ pre ++ v ++ after).take pre.length = pre ∧
           (((b2 ++ pre ++ v ++ after).drop pre.length).head?.map isVal).getD false = true) := by
  induction line with
  | nil => nomatch h
  | cons c cs ih =>
    rw [findTagged] at h
    split at h
    · next hc =>
      rw [Bool.and_eq_true, beq_iff_eq] at hc
      cases h
      refine ⟨[], ((c :: cs).drop pre.length).dropWhile isVal, ?_, ?_, List.all_takeWhile, ?_, fun b1 b2 hb hne =>
        absurd (List.append_eq_nil_iff.1 hb.symm).2 hne⟩
      · rw [List.nil_append, List.append_assoc, List.takeWhile_append_dropWhile]
        exact (List.take_append_drop pre.length (c :: cs)).symm.trans (by rw [hc.1])
      · cases hd : (c :: cs).drop pre.length with
        | nil => rw [hd] at hc; cases hc.2
        | cons x xs =>
          rw [hd] at hc
          have hx : isVal x = true := hc.2
          rw [List.takeWhile_cons, if_pos hx]
          exact List.cons_ne_nil _ _
      · have := List.head?_dropWhile_not isVal ((c :: cs).drop pre.length)
        cases hd : (((c :: cs).drop pre.length).dropWhile isVal).head? <;> rw [hd] at this
        · rfl
        · exact this
    · next hc =>
      obtain ⟨before, after, rfl, hv1, hv2, hv3, hmin⟩ := ih h
      refine ⟨c :: before, after, rfl, hv1, hv2, hv3, fun b1 b2 hb hne hcon => ?_⟩
      cases b1 with
      | nil => cases hb; exact hc (by rw [Bool.and_eq_true, beq_iff_eq]; exact hcon)
      | cons x xs => exact hmin xs b2 (List.cons.inj hb).2 hne hcon

/-- **captured_free**: for an unanchored pattern (`pos = 3`) the value of the data point is the
captured part of the line, and the stamp is the reception time -/
theorem captured_free (epoch : Rat) (sd : SigDef) (line v : List Char) (st : Option Stamp)
    (hpos : sd.pos = 3) (hm : matchSig epoch sd line = some (st, v)) :
    st = some .now ∧ ∃ before after, line = before ++ (sd.tag.toList ++ ['=']) ++ v ++ after ∧
      v ≠ [] ∧ v.all (valClass sd.typ) = true := by
  unfold matchSig matchFree at hm
  rw [if_pos hpos] at hm
  obtain ⟨w, hf, he⟩ := Option.map_eq_some_iff.1 hm
  cases he
  obtain ⟨before, after, hl, h1, h2, -, -⟩ := findTagged_spec _ _ _ _ hf
  exact ⟨rfl, before, after, hl, h1, h2⟩

/-- the defect repaired by afa0e62, as a witness: `INFO load=42 ms` — the capture is `42`
(before the repair the capture was substituted into the line: `INFO 42 ms`, which is no number) -/
example : matchSig 0 ⟨"load", "load", .scalar, .now, 3⟩ "INFO load=42 ms".toList = some (some .now, "42".toList) ∧
    sampleOf 0 ⟨"load", "load", .scalar, .now, 3⟩ 0 "INFO load=42 ms".toList = (0, some ⟨.now, .num 42⟩) ∧
    matchSig 0 ⟨"boot", "boot", .event, .now, 3⟩ "x boot= boot=done now".toList = some (some .now, "done".toList) := by
  repeat rw [String.toList_ofList]
  decide +kernel

/-- two records of one line: each pattern reads its own record (non-vacuity: different dates) -/
example : recordOf 1 "2020-01-01T00:00:01Z a=x | 2020-01-01T00:00:03Z b=2".toList
      = some "2020-01-01T00:00:01Z a=x".toList ∧
    recordOf 2 "2020-01-01T00:00:01Z a=x | 2020-01-01T00:00:03Z b=2".toList
      = some "2020-01-01T00:00:03Z b=2".toList ∧
    recordOf 2 "no separator".toList = none := by
  repeat rw [String.toList_ofList]
  decide +kernel

example : sampleOf 1577836800 ⟨"b", "b", .scalar, .rfc3339, 2⟩ 0
      "2020-01-01T00:00:01Z a=x | 2020-01-01T00:00:03Z b=2".toList = (0, some ⟨.at 3, .num 2⟩) ∧
    sampleOf 1577836800 ⟨"a", "a", .event, .rfc3339, 1⟩ 0
      "2020-01-01T00:00:01Z a=x | 2020-01-01T00:00:03Z b=2".toList = (0, some ⟨.at 1, .str "x"⟩) := by
  rw [String.toList_ofList]
  decide +kernel

/-- **ts_kind**: the stamp of a point is the reception time for `ts_now`; the parsed captured
seconds since the start of the play for `ts_deltasecs`; the captured date minus the epoch of the
play (i.e. that date, on the play's clock) for `ts_rfc3339` and `ts_log`. -/
theorem ts_kind (epoch : Rat) (sd : SigDef) (last last' : Rat) (line : List Char) (p : Point)
    (hpos : sd.pos ≠ 3) (h : sampleOf epoch sd last line = (last', some p)) :
    ∃ rec, recordOf sd.pos line = some rec ∧
    (sd.ts = .now → p.stamp = .now) ∧
    (sd.ts = .deltasecs → ∃ secs, isDeltaSecs (rec.takeWhile (· != ' ')) = true ∧
        parseFloat (rec.takeWhile (· != ' ')) = some secs ∧ p.stamp = .at secs) ∧
    (sd.ts = .rfc3339 → ∃ u, parseRfc3339 (rec.takeWhile (· != ' ')) = some (some u) ∧
        p.stamp = .at (u - epoch)) ∧
    (sd.ts = .log → ∃ u, parseLogTs (rec.take 22) = some (some u) ∧ p.stamp = .at (u - epoch)) := by
  obtain ⟨⟨v, hm⟩, -⟩ := sampleOf_some (p := p) (congrArg Prod.snd h)
  obtain ⟨rec, hrec, hm⟩ := matchSig_rec epoch sd line _ hpos hm
  obtain ⟨-, -, pre, -, hk⟩ := matchRec_some epoch sd rec v _ hm
  refine ⟨rec, hrec, ?_⟩
  revert hk
  cases sd.ts <;> intro hk
  · exact ⟨fun _ => Option.some.inj hk.2, nofun, nofun, nofun⟩
  · obtain ⟨secs, h1, h2⟩ := Option.map_eq_some_iff.1 hk.2.2.symm
    exact ⟨nofun, fun _ => ⟨secs, hk.2.1, h1, h2.symm⟩, nofun, nofun⟩
  · obtain ⟨-, r, hr, hs⟩ := hk
    obtain ⟨u, rfl, h2⟩ := Option.map_eq_some_iff.1 hs.symm
    exact ⟨nofun, nofun, fun _ => ⟨u, hr, h2.symm⟩, nofun⟩
  · obtain ⟨-, r, hr, hs⟩ := hk
    obtain ⟨u, rfl, h2⟩ := Option.map_eq_some_iff.1 hs.symm
    exact ⟨nofun, nofun, nofun, fun _ => ⟨u, hr, h2.symm⟩⟩

/-- every number a data point carries is within the range of float64 (beyond it `strconv.ParseFloat` reports a range
error and the line yields no point) -/
theorem parsed_in_float_range (v : List Char) (x : Rat) (h : parseFloat v = some x) : overflows x = false := by
  obtain ⟨q, -, hq⟩ := Option.bind_eq_some_iff.1 h
  unfold inRange at hq
  split at hq
  · cases hq
  · cases hq
    exact Bool.eq_false_iff.2 ‹_›

/-! ### Non-vacuity of Part 2: numbers, dates, stamps -/

example : parseFloat "12.5".toList = some (25/2) := by decide +kernel
example : parseFloat "-3".toList = some (-3) := by decide +kernel
example : parseFloat "+.5".toList = some (1/2) := by decide +kernel
example : parseFloat "1.5e2".toList = some 150 := by decide +kernel
example : parseFloat "25E-1".toList = some (5/2) := by decide +kernel
example : parseFloat "oops".toList = none := by decide +kernel
-- a number beyond the range of float64 is a range error of `strconv.ParseFloat`: no data point; the largest float64 parses
example : parseFloat "1e400".toList = none ∧ parseFloat "-1e999".toList = none ∧
    (parseFloat "1.7976931348623157e308".toList).isSome = true := by
  repeat rw [String.toList_ofList]
  decide +kernel
example : parseFloat "".toList = none := by decide +kernel
example : parseFloat "1.2.3".toList = none := by decide +kernel
example : parseFloat "1e".toList = none := by decide +kernel

example : parseRfc3339 "2020-01-01T00:00:07.25Z".toList = some (some (1577836800 + 29/4)) := by
  rw [String.toList_ofList]
  decide +kernel
/-- month 13: the pattern matches, `time.Parse` rejects -/
example : parseRfc3339 "2020-13-01T00:00:07Z".toList = some none := by
  rw [String.toList_ofList]
  decide +kernel
example : parseRfc3339 "yesterday".toList = none := by decide +kernel
example : parseLogTs "200101 00:00:07.250000".toList = some (some (1577836800 + 1/4 + 7)) := by
  rw [String.toList_ofList]
  decide +kernel

example : sampleOf 0 ⟨"s", "v", .scalar, .now, 0⟩ 0 "v=3".toList = (0, some ⟨.now, .num 3⟩) := by
  decide +kernel
example : sampleOf 0 ⟨"s", "v", .scalar, .deltasecs, 0⟩ 0 "12.5 v=3".toList =
    (0, some ⟨.at (25/2), .num 3⟩) := by decide +kernel
example : sampleOf 1577836800 ⟨"e", "e", .event, .rfc3339, 0⟩ 0 "2020-01-01T00:00:07.25Z e=hello".toList =
    (0, some ⟨.at (29/4), .str "hello"⟩) := by
  rw [String.toList_ofList]
  decide +kernel
example : sampleOf 1577836800 ⟨"e", "e", .event, .log, 0⟩ 0 "200101 00:00:07.250000 e=hello".toList =
    (0, some ⟨.at (29/4), .str "hello"⟩) := by
  rw [String.toList_ofList]
  decide +kernel
example : sampleOf 0 ⟨"d", "v", .delta, .now, 0⟩ 2 "v=5".toList = (5, some ⟨.now, .num 3⟩) := by
  decide +kernel

/-! ## Malformed captures drop the point, never anything else -/

/-- the pattern of `sd` matches the line but the captured date, or the captured number of a
scalar/delta signal, is rejected by its parser -/
def Malformed (epoch : Rat) (sd : SigDef) (line : List Char) : Prop :=
  (∃ v, matchSig epoch sd line = some (none, v)) ∨
  (sd.typ ≠ .event ∧ ∃ st v, matchSig epoch sd line = some (st, v) ∧ parseFloat v = none)

theorem malformed_no_point (epoch : Rat) (sd : SigDef) (last : Rat) (line : List Char)
    (h : Malformed epoch sd line) : sampleOf epoch sd last line = (last, none) := by
  rcases h with ⟨v, hm⟩ | ⟨ht, st, v, hm, hp⟩
  · simp [sampleOf, hm]
  · unfold sampleOf
    rw [hm]
    cases st with
    | none => rfl
    | some st =>
      -- a numeric signal, and `parseFloat` has rejected the capture
      cases hty : sd.typ with
      | event => exact absurd hty ht
      | scalar | delta => dsimp only; rw [hp]

/-- a line matching no pattern of `sd` is as silent as a malformed one -/
theorem nomatch_no_point (epoch : Rat) (sd : SigDef) (last : Rat) (line : List Char)
    (h : matchSig epoch sd line = none) : sampleOf epoch sd last line = (last, none) := by
  simp [sampleOf, h]

/-- **malformed_drops_point_only**: a malformed line yields no point for `sd` and does not move its delta
state, so (`Spot.silent_line_removable`) it can be removed from the output of the actor without changing
any of the other points of `sd` (values of later deltas included) nor the final delta state. -/
theorem malformed_drops_point_only (epoch : Rat) (sd : SigDef) (last : Rat)
    (pre post : List (List Char)) (l : List Char) (h : Malformed epoch sd l) :
    sampleOf epoch sd (lastAfter epoch sd last pre) l = (lastAfter epoch sd last pre, none) ∧
    pointsOf epoch sd last (pre ++ l :: post) = pointsOf epoch sd last (pre ++ post) ∧
    lastAfter epoch sd last (pre ++ l :: post) = lastAfter epoch sd last (pre ++ post) :=
  ⟨malformed_no_point epoch sd _ l h,
   silent_line_removable post (malformed_no_point epoch sd _ l h)⟩

/-- the same at the level of the model of `detectSignals`: the samples emitted for the watched
signal are those of the output with the malformed line removed — the run continues, the other
lines keep their points -/
theorem malformed_drops_sample_only (epoch : Rat) (sigs : List SigDef) (hasSink : String → Bool)
    (actor : String) (sd : SigDef) (hs : hasSink sd.name = true)
    (hu : sigs.filter (fun x => x.name == sd.name) = [sd]) (pre post : List (List Char))
    (l : List Char) (h : Malformed epoch sd l) :
    samplesOf actor sd.name (detectAll epoch sigs hasSink actor [] (pre ++ l :: post)).2 =
      samplesOf actor sd.name (detectAll epoch sigs hasSink actor [] (pre ++ post)).2 := by
  rw [detect_points epoch sigs hasSink actor sd hs hu, detect_points epoch sigs hasSink actor sd hs hu,
    (malformed_drops_point_only epoch sd 0 pre post l h).2.1]

/-- … and it causes **no audit round**: a line on which every signal of the role is malformed (or matches nothing, or
has no sink) produces no event at all for the audition — "unparsable captures drop the point, never the play".
(Before the repair e3e8ea0 an event without values was still emitted for the time stamp of a line whose number did
not parse: `t`, `mood`, `moodt` were assigned at that time and auditors woken.) -/
theorem malformed_line_emits_nothing (epoch : Rat) (sigs : List SigDef) (hasSink : String → Bool)
    (actor : String) (lasts : Lasts) (line : List Char)
    (h : ∀ sd ∈ sigs, hasSink sd.name = false ∨ matchSig epoch sd line = none ∨ Malformed epoch sd line) :
    detectLine epoch sigs hasSink actor lasts line = (lasts, []) := by
  rw [detectLine_eq]
  have key : sigs.foldl (detStep epoch hasSink actor line) (lasts, []) = (lasts, []) :=
    List.foldlRecOn (motive := (· = (lasts, []))) sigs _ rfl fun b hb sd hsd => by
      refine (detStep_silent epoch hasSink actor line b sd ((h sd hsd).imp_right fun h' => ?_)).trans hb
      rw [h'.elim (nomatch_no_point epoch sd _ line) (malformed_no_point epoch sd _ line)]
  rw [key]
  rfl

/-- `Malformed` is satisfiable both ways: a rejected date, a rejected number -/
example : Malformed 0 ⟨"e", "e", .event, .rfc3339, 0⟩ "2020-13-01T00:00:07Z e=x".toList :=
  Or.inl ⟨"x".toList, by rw [String.toList_ofList]; decide +kernel⟩
example : Malformed 0 ⟨"d", "v", .delta, .deltasecs, 0⟩ "14 v=oops".toList :=
  Or.inr ⟨by decide, some (.at 14), "oops".toList, by decide +kernel, by decide +kernel⟩

/-- the malformed line of the example removed: the same points -/
example : pointsOf 0 ⟨"d", "v", .delta, .deltasecs, 0⟩ 0
      ["12.5 v=3".toList, "13 v=5".toList, "14 v=oops".toList, "15 v=4".toList] =
    pointsOf 0 ⟨"d", "v", .delta, .deltasecs, 0⟩ 0 ["12.5 v=3".toList, "13 v=5".toList, "15 v=4".toList] :=
  (malformed_drops_point_only 0 _ 0 ["12.5 v=3".toList, "13 v=5".toList] ["15 v=4".toList] _
    (Or.inr ⟨by decide, some (.at 14), "oops".toList, by decide +kernel, by decide +kernel⟩)).2.1

/-! ## Part 3 — the audit loop forwards every sample exactly once

(one round here; a whole run is `Spot.forwarded_run` in `Lemmas/Pipeline.lean`) -/

/-- **forwarded_once** (`beginRound`, the head of `checkEvent`): what the assignments of a round
add to the output is `added`, consed in front of the previous output, and the signal
observations (`Out.obs` of a variable with a non-empty actor) among `added` are exactly the
non-nil samples of the event, once each, in order (`out` is kept reversed). -/
theorem forwarded_once (c : Cfg) (ts : Rat) (samples : List Sample) (s : St) :
    ∃ added, (beginRound c ts samples s).out = added ++ s.out ∧
      sigObs added = (fwd ts samples).reverse := by
  obtain ⟨pre, hpre, ho⟩ := beginRound_out c ts samples s
  refine ⟨_ ++ pre, by rw [ho, List.append_assoc], ?_⟩
  rw [sigObs_append, hpre, sigObs_forwarded, List.append_nil]
  rfl

/-- for the samples `detectSignals` produces (non-nil, of a named actor) nothing is filtered:
every sample is forwarded -/
theorem forwarded_all (ts : Rat) (samples : List Sample)
    (h : ∀ x ∈ samples, x.val.isNil = false ∧ x.v.actor ≠ "") :
    fwd ts samples = samples.map (Sample.obs ts) :=
  fwd_eq_map ts samples h

/-- `setAndActivateVar` for a sample (`collectChange = false`, the repair 7c317ef) emits nothing itself -/
theorem setVar_sample_silent (c : Cfg) (s : St) (ts : Rat) (typ : Typ) (v : VarName) (val : Val) :
    (setVar c s ts typ v val false).out = s.out :=
  setVar_false_out c s ts typ v val

/-- visiting an auditor never emits a signal observation: assignments target computed variables
(actor `""`), the rest are reports and start/stop markers -/
theorem visit_no_signal_obs (c : Cfg) (final : Bool) (ts : Rat) (s : St) (m : Member) :
    ∃ added, (visit c final ts s m).out = added ++ s.out ∧ sigObs added = [] :=
  visit_quiet c final ts s m

theorem assign_no_signal_obs (c : Cfg) (ts : Rat) (s : St) (a : Assign) :
    ∃ added, (assignOne c ts s a).out = added ++ s.out ∧ sigObs added = [] :=
  assignOne_quiet c ts s a

/-- `forwarded_once` for a whole round (`checkEvent`): the visits add no signal observation. -/
theorem forwarded_once_round (c : Cfg) (final : Bool) (ts : Rat) (samples : List Sample) (s : St)
    (h : s.abort = none) :
    ∃ added, (round c final ts samples s).out = added ++ s.out ∧
      sigObs added = (fwd ts samples).reverse := by
  obtain ⟨pre, post, hpre, hpost, ho⟩ := round_out c final ts samples s h
  refine ⟨post ++ (((samples.filter fun x => !x.val.isNil).map (Sample.obs ts)).reverse ++ pre),
    by rw [ho]; simp, ?_⟩
  rw [sigObs_append, sigObs_append, hpre, hpost, sigObs_forwarded]
  simp [fwd]

/-- after an abort (evaluation error in an `audits`/`computes`/`collects` expression) the loop
has returned: nothing more is processed -/
theorem aborted_round (c : Cfg) (final : Bool) (ts : Rat) (samples : List Sample) (s : St)
    (h : s.abort.isSome = true) : round c final ts samples s = s :=
  round_aborted c final ts samples s h

/-! ### Non-vacuity of Part 3 -/

def exCfg : Cfg :=
  { members := [{ name := "obs", cond := .lit (.bool true), assigns := [], expect := none,
                  watches := [⟨"bob", "d"⟩, ⟨"bob", "e"⟩] }] }

def exSamples : List Sample :=
  [⟨.delta, ⟨"bob", "d"⟩, .sc (.num 3)⟩, ⟨.event, ⟨"bob", "e"⟩, .sc (.str "hello")⟩]

example : fwd 7 exSamples =
    [.obs 7 .delta ⟨"bob", "d"⟩ (.sc (.num 3)), .obs 7 .event ⟨"bob", "e"⟩ (.sc (.str "hello"))] := by
  rw [forwarded_all 7 exSamples (by decide +kernel)]; rfl

/-- a run of two events that does not abort, each sample forwarded once although the value of
`[bob d]` repeats -/
example : ((run exCfg [.sig 7 exSamples, .sig 8 exSamples] 9).abort = none) ∧
    ((sigObs (run exCfg [.sig 7 exSamples, .sig 8 exSamples] 9).out).length = 4) := by
  decide +kernel

/-! ## Parts 1 and 3 composed: lines → `detectSignals` → audit loop → observations -/

/-- **rows_exact**.  Take the lines of an actor, each with its reception time (any pace), run the
model of `detectSignals` on each, hand the emitted events to the audit loop (`pipeEvs`; the driver's
`pipelineReq` does the same inline) and let the audition run to its end without an evaluation abort.
Then the observations of `[actor sd.name]` in the output, in emission order, are exactly the rows
`rowsOf` specifies — one per matching parsable line, in line order, with the signal's type, the
point's value, and as time the reception time (ts_now) or the captured time. -/
theorem rows_exact (c : Cfg) (epoch : Rat) (sigs : List SigDef) (hasSink : String → Bool)
    (actor : String) (hact : actor ≠ "") (sd : SigDef) (hs : hasSink sd.name = true)
    (hu : sigs.filter (fun x => x.name == sd.name) = [sd]) (tls : List (Rat × List Char)) (tEnd : Rat)
    (hna : ((pipeEvs epoch sigs hasSink actor [] tls).foldl (stepEv c) (start c)).abort = none) :
    rowsFor ⟨actor, sd.name⟩ (run c (pipeEvs epoch sigs hasSink actor [] tls) tEnd).out.reverse =
      (rowsOf epoch sd 0 tls).map fun r => (r.1, sd.typ, Val.sc r.2) := by
  rw [rowsFor_run c _ tEnd ⟨actor, sd.name⟩ hact hna]
  exact pipeEvs_rows epoch sigs hasSink actor hact sd hs hu [] tls

/-- the values of the rows are the values of the points of `pointsOf` -/
theorem rows_values (epoch : Rat) (sd : SigDef) (tls : List (Rat × List Char)) :
    (rowsOf epoch sd 0 tls).map (·.2) = (pointsOf epoch sd 0 (tls.map (·.2))).map (·.val) :=
  rowsOf_vals epoch sd 0 tls

def exTimed : List (Rat × List Char) :=
  [(100, "12.5 v=3".toList), (101, "noise".toList), (102, "13 v=5".toList), (103, "14 v=oops".toList),
   (104, "2020-01-01T00:00:07.25Z e=hello".toList), (105, "2020-13-01T00:00:07Z e=x".toList),
   (106, "15 v=4".toList)]

/-- the hypothesis "no abort" of `rows_exact` holds for the example play … -/
example : ((pipeEvs 1577836800 exSigs exSink "bob" [] exTimed).foldl (stepEv exCfg) (start exCfg)).abort
    = none := by
  unfold exTimed
  repeat rw [String.toList_ofList]
  decide +kernel

/-- … whose rows are non-trivial (the left side of `rows_exact`, evaluated) -/
example : rowsFor ⟨"bob", "d"⟩ (run exCfg (pipeEvs 1577836800 exSigs exSink "bob" [] exTimed) 200).out.reverse
    = [(25/2, .delta, .sc (.num 3)), (13, .delta, .sc (.num 2)), (15, .delta, .sc (.num (-1)))] := by
  unfold exTimed
  repeat rw [String.toList_ofList]
  decide +kernel

example : rowsOf 0 ⟨"n", "v", .scalar, .now, 0⟩ 0 [(100, "v=3".toList), (101, "v=x".toList), (102, "v=4".toList)]
    = [(100, .num 3), (102, .num 4)] := by decide +kernel

/-! ## one row per watching observer -/

section fanout
open Shk.Collect

/-- **Exactly one data point per watching observer**: for every stream of forwarded
observations, every audience member `m` that watches the variable `v` (names it in a `watches`
clause or in one of its expressions), provided member names are distinct, finds in its file
`<m>.<actor>.<signal>.csv` exactly the observations of `v`, once each, in order. -/
theorem rows_per_observer (c : Cfg) (hnd : (c.members.map (·.name)).Nodup) (outs : List Out)
    (m : Member) (hm : m ∈ c.members) (v : VarName) (hw : m.mentions.contains v = true) :
    file (collectAll c outs) m.name v.actor v.sig = obsOf v outs := by
  rw [file_collectAll, filter_key_of_nodup Member.name (c.watchers v) m (List.mem_filter.2 ⟨hm, hw⟩)
    ((List.filter_sublist.map _).nodup hnd)]
  exact List.flatMap_singleton' _

/-- and an audience member that does not watch the variable gets no row for it -/
theorem no_row_for_non_watcher (c : Cfg) (outs : List Out) (name : String) (v : VarName)
    (h : ∀ m ∈ c.members, m.name = name → m.mentions.contains v = false) :
    file (collectAll c outs) name v.actor v.sig = [] := by
  rw [file_collectAll, List.filter_eq_nil_iff.2 fun m hm hn => ?_]
  · exact List.flatMap_eq_nil_iff.2 fun _ _ => rfl
  · have hm := List.mem_filter.1 hm
    exact Bool.false_ne_true ((h m hm.1 (beq_iff_eq.1 hn)).symm.trans hm.2)

end fanout

end Shk.C08
