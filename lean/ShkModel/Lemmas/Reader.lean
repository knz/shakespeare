import ShkModel.Model.Reader
import ShkModel.Lemmas.Drop
/-! Invariants of the reader: what one call of `readLine` preserves and guarantees (`readLine_spec`), with what `search`
answers on its list of candidates, and the potential `phi` (remaining `ReadString` calls, weighted by depth) that every
call lowers.  All statements are about the repaired code (`old = false`). -/
namespace Shk.Reader
open Shk.Preproc

theorem gather_line_false (tail : Bytes) (bad : Bool) (rest : List Bytes) (acc : Bytes) (k0 : Nat) :
    ∀ {text : Bytes} {rest' : List Bytes} {k : Nat}, gather tail bad acc rest k0 = .line text rest' k false →
      ∃ used l, rest = used ++ l :: rest' ∧ endsBackslash l = false ∧ k = k0 + used.length + 1 := by
  fun_induction gather tail bad acc rest k0 with
  | case1 | case2 | case3 => nofun
  | case4 acc l rest k0 _ ih =>
    intro text rest' k h
    obtain ⟨used, l', rfl, h2, rfl⟩ := ih h
    exact ⟨l :: used, l', rfl, h2, by simp only [List.length_cons]; omega⟩
  | case5 acc l rest k0 hl => rintro _ _ _ ⟨⟩; exact ⟨[], l, rfl, Bool.not_eq_true _ ▸ hl, rfl⟩

theorem gather_line_true (tail : Bytes) (bad : Bool) :
    ∀ (rest : List Bytes) (acc : Bytes) (k0 : Nat) {text : Bytes} {rest' : List Bytes} {k : Nat},
      gather tail bad acc rest k0 = .line text rest' k true →
      bad = false ∧ rest' = [] ∧ k = k0 + rest.length + 1 ∧
        ((acc ≠ [] ∨ rest ≠ []) → tail ≠ []) ∧ (rest = [] → text = acc ++ tail) := by
  intro rest acc k0
  fun_induction gather tail bad acc rest k0 with
  | case1 | case2 | case5 => nofun
  | case3 acc k0 hb hacc =>
    rintro _ _ _ ⟨⟩
    exact ⟨Bool.not_eq_true _ ▸ hb, rfl, rfl, fun h ht => hacc ⟨h.resolve_right (· rfl), ht⟩, fun _ => rfl⟩
  | case4 acc l rest k0 _ ih =>
    intro text rest' k h
    obtain ⟨h1, h2, rfl, h4, _⟩ := ih h
    exact ⟨h1, h2, by simp only [List.length_cons]; omega, fun _ => h4 (.inl (by simp)), nofun⟩

theorem gather_eofCont (tail : Bytes) (bad : Bool) (rest : List Bytes) (acc : Bytes) (k0 : Nat) :
    ∀ {k : Nat}, gather tail bad acc rest k0 = .eofCont k →
      bad = false ∧ tail = [] ∧ k = k0 + rest.length + 1 ∧ (acc = [] → rest ≠ []) ∧
        ∀ l ∈ rest, endsBackslash l = true := by
  fun_induction gather tail bad acc rest k0 with
  | case1 | case3 | case5 => nofun
  | case2 acc k0 hb hacc => rintro _ ⟨⟩; exact ⟨Bool.not_eq_true _ ▸ hb, hacc.2, rfl, fun e => absurd e hacc.1, nofun⟩
  | case4 acc l rest k0 hl ih =>
    intro k h
    obtain ⟨h1, h2, rfl, _, h5⟩ := ih h
    exact ⟨h1, h2, by simp only [List.length_cons]; omega, nofun, List.forall_mem_cons.mpr ⟨hl, h5⟩⟩

theorem gather_readErr (tail : Bytes) (bad : Bool) (rest : List Bytes) (acc : Bytes) (k0 : Nat) :
    ∀ {k : Nat}, gather tail bad acc rest k0 = .readErr k → bad = true ∧ k = k0 + rest.length := by
  fun_induction gather tail bad acc rest k0 with
  | case2 | case3 | case5 => nofun
  | case1 acc k0 hb => rintro _ ⟨⟩; exact ⟨hb, rfl⟩
  | case4 acc l rest k0 _ ih =>
    intro k h
    obtain ⟨h1, rfl⟩ := ih h
    exact ⟨h1, by simp only [List.length_cons]; omega⟩

theorem gather_line_false_last (tail : Bytes) (bad : Bool) :
    ∀ (rest : List Bytes) (acc : Bytes) (k0 : Nat) {text : Bytes} {rest' : List Bytes} {k : Nat},
      gather tail bad acc rest k0 = .line text rest' k false →
      ∃ used l, rest = used ++ l :: rest' ∧ endsBackslash l = false := by
  intro rest acc k0 text rest' k h
  obtain ⟨used, l, h1, h2, _⟩ := gather_line_false tail bad rest acc k0 h
  exact ⟨used, l, h1, h2⟩

/-- the physical lines before the cursor end a logical line: there is none, or the last one has no continuation mark -/
def LS (pre : List Bytes) : Prop := ∀ l, pre.getLast? = some l → endsBackslash l = false

theorem trimSpace_nil : trimSpace [] = [] := by decide

theorem ignore_nil : ignoreLine (trimSpace []) = true := by decide

theorem gather_nonblank {tail : Bytes} {bad : Bool} {rest : List Bytes} {text : Bytes} {rest' : List Bytes}
    {k : Nat} {eof : Bool} (hg : gather tail bad [] rest 0 = .line text rest' k eof)
    (hni : ignoreLine (trimSpace text) = false) : rest ≠ [] ∨ tail ≠ [] := by
  by_cases hr : rest = []
  · refine .inr fun ht => ?_
    subst hr ht
    cases bad <;> cases hg
    exact Bool.false_ne_true (hni.symm.trans ignore_nil)
  · exact .inl hr

/-- the frame is a faithful cursor into the file it names -/
def FrameOK (fs : FS) (f : Frame) : Prop :=
  ∃ body tail0, fs f.file = .file body tail0 f.bad ∧ f.lineno = f.nl + 1 ∧
    ((f.tail = tail0 ∧ ∃ pre, body = pre ++ f.rest ∧ pre.length = f.nl ∧ LS pre) ∨
     (f.rest = [] ∧ f.tail = [] ∧ f.bad = false ∧ body.length < f.nl))

/-- `(file, l)`: physical lines `l-k … l-1` of `file` are an include directive -/
def AfterInclude (fs : FS) (file : Name) (l : Nat) : Prop :=
  ∃ body tail bad, fs file = .file body tail bad ∧ 2 ≤ l ∧ l ≤ nphys body tail bad + 1 ∧
    ∃ k text rest eof, 1 ≤ k ∧ k < l ∧
      clauseAt body tail bad (l - k) = .line text rest k eof ∧ (includeArg (trimSpace text)).isSome = true

/-- a frame suspended behind an include directive -/
def Susp (fs : FS) (f : Frame) : Prop := FrameOK fs f ∧ AfterInclude fs f.file f.lineno

/-- `10`: `readLine` refuses an include from the tenth frame (`dispatch`), so the stack never grows beyond -/
def Inv (fs : FS) : List Frame → Prop
  | [] => True
  | top :: below => below.length + 1 ≤ 10 ∧ FrameOK fs top ∧ ∀ f ∈ below, Susp fs f

/-- the position exists, the context window is inside `lines`, the chain is right (up to the
off-by-one stated in `AfterInclude`: it names the line after the directive) -/
structure DiagOK (fs : FS) (d : Diag) : Prop where
  pos : ∃ body tail bad, fs d.file = .file body tail bad ∧ 1 ≤ d.line ∧ d.line ≤ nphys body tail bad
  window : d.ctxLo ≤ d.line - 1 ∧ d.line - 1 ≤ d.ctxHi ∧ d.ctxHi < d.nl
  chain : ∀ p ∈ d.chain, AfterInclude fs p.1 p.2

/-- physical line `line` (1-based) of `body` starts a logical line: it is the first one, or the line before it has no
continuation mark -/
def LineStart (body : List Bytes) (line : Nat) : Prop :=
  line = 1 ∨ ∃ l, body[line - 2]? = some l ∧ endsBackslash l = false

/-- what comes with a clause handed out at `line`: were it rejected, the diagnostic would be a true one, and `text` is
the trimmed logical line that starts at `line` -/
def ClauseFacts (fs : FS) (text : Bytes) (line : Nat) (r : Frame) (below : List Frame) : Prop :=
  (∃ d, wrapErr r below line .clause = some d ∧ DiagOK fs d) ∧
    ∃ body tail bad raw rest k eof, fs r.file = .file body tail bad ∧
      clauseAt body tail bad line = .line raw rest k eof ∧ text = trimSpace raw ∧ LineStart body line

theorem chain_ok {fs : FS} {below : List Frame} (h : ∀ f ∈ below, Susp fs f) :
    ∀ p ∈ chainOf below, AfterInclude fs p.1 p.2 := by
  intro p hp
  obtain ⟨f, hf, rfl⟩ := List.mem_map.mp hp
  exact (h f hf).2

/-- the two ways of saying that the cursor stands behind `nl` complete lines at the start of a logical line: by the
lines before it, as `FrameOK` does, or by its index, as the diagnostics do -/
theorem prefix_iff {body rest : List Bytes} {nl : Nat} :
    (∃ pre, body = pre ++ rest ∧ pre.length = nl ∧ LS pre) ↔
      nl ≤ body.length ∧ body.drop nl = rest ∧ LineStart body (nl + 1) := by
  constructor
  · rintro ⟨pre, rfl, rfl, hls⟩
    refine ⟨by rw [List.length_append]; exact Nat.le_add_right _ _, List.drop_left, ?_⟩
    cases hl : pre.getLast? with
    | none => exact .inl (by rw [List.getLast?_eq_none_iff.mp hl]; rfl)
    | some l =>
      have hpos : 0 < pre.length := List.length_pos_iff.mpr fun e => by rw [e] at hl; cases hl
      rw [List.getLast?_eq_getElem?] at hl
      exact .inr ⟨l, by rw [List.getElem?_append_left (by omega)]; exact hl, hls l (by rw [List.getLast?_eq_getElem?]; exact hl)⟩
  · rintro ⟨hle, rfl, hst⟩
    refine ⟨body.take nl, (List.take_append_drop nl body).symm, by rw [List.length_take]; exact Nat.min_eq_left hle, ?_⟩
    intro l hl
    rw [List.getLast?_take] at hl
    split at hl
    · cases hl
    · rcases hst with h1 | ⟨l', h2, h3⟩
      · omega
      · rw [Nat.add_sub_add_right nl 1 1] at h2
        rw [h2] at hl
        cases hl; exact h3

theorem FrameOK.cursor {fs : FS} {r : Frame} (h : FrameOK fs r) (hne : r.rest ≠ [] ∨ r.tail ≠ [] ∨ r.bad = true) :
    ∃ body, fs r.file = .file body r.tail r.bad ∧ r.lineno = r.nl + 1 ∧ r.nl ≤ body.length ∧
      body.drop r.nl = r.rest ∧ LineStart body (r.nl + 1) := by
  obtain ⟨body, tail0, hfs, hln, ⟨rfl, hpre⟩ | ⟨h1, h2, h3, _⟩⟩ := h
  · exact ⟨body, hfs, hln, prefix_iff.mp hpre⟩
  · rcases hne with h | h | h
    · exact absurd h1 h
    · exact absurd h2 h
    · rw [h3] at h; cases h

theorem cursor_step {body used rest : List Bytes} {l : Bytes} {nl : Nat} (hle : nl ≤ body.length)
    (hd : body.drop nl = used ++ l :: rest) (hl : endsBackslash l = false) :
    nl + (used.length + 1) ≤ body.length ∧ body.drop (nl + (used.length + 1)) = rest ∧
      LineStart body (nl + (used.length + 1) + 1) := by
  refine ⟨?_, ?_, .inr ⟨l, ?_, hl⟩⟩
  · rw [length_of_drop hd hle, List.length_append, List.length_cons]
    exact Nat.add_le_add_left (Nat.add_le_add_left (Nat.succ_le_succ (Nat.zero_le _)) _) _
  · rw [← List.drop_drop, hd, ← List.drop_drop, List.drop_left]; rfl
  · rw [show nl + (used.length + 1) + 1 - 2 = nl + used.length from rfl, ← List.getElem?_drop, hd,
      List.getElem?_append_right (Nat.le_refl _), Nat.sub_self]; rfl

theorem advance_ok {fs : FS} {r : Frame} (h : FrameOK fs r) {text : Bytes} {rest : List Bytes}
    {k : Nat} {eof : Bool} (hg : gather r.tail r.bad [] r.rest 0 = .line text rest k eof) :
    FrameOK fs (r.advance rest k eof) := by
  cases eof with
  | false =>
    obtain ⟨used, l, h1, hl, rfl⟩ := gather_line_false _ _ _ _ _ hg
    obtain ⟨body, hfs, hln, hle, hd, _⟩ := h.cursor (.inl (by rw [h1]; exact List.append_ne_nil_of_right_ne_nil _ (List.cons_ne_nil _ _)))
    rw [Nat.zero_add]
    exact ⟨body, r.tail, hfs, (congrArg (· + _) hln).trans (Nat.add_right_comm _ _ _),
      .inl ⟨rfl, prefix_iff.mpr (cursor_step hle (hd.trans h1) hl)⟩⟩
  | true =>
    obtain ⟨hb, rfl, rfl, _, _⟩ := gather_line_true _ _ _ _ _ hg
    obtain ⟨body, tail0, hfs, hln, hd⟩ := h
    refine ⟨body, tail0, hfs, (congrArg (· + _) hln).trans (Nat.add_right_comm _ _ _), .inr ⟨rfl, rfl, hb, ?_⟩⟩
    show body.length < r.nl + (0 + r.rest.length + 1)
    rcases hd with ⟨_, hpre⟩ | ⟨_, _, _, hlt⟩
    · have := prefix_iff.mp hpre
      rw [length_of_drop this.2.1 this.1, Nat.zero_add]
      exact Nat.lt_succ_self _
    · exact Nat.lt_of_lt_of_le hlt (Nat.le_add_right _ _)

theorem line_pos {fs : FS} {r : Frame} (h : FrameOK fs r) {text : Bytes} {rest : List Bytes}
    {k : Nat} {eof : Bool} (hg : gather r.tail r.bad [] r.rest 0 = .line text rest k eof)
    (hni : ignoreLine (trimSpace text) = false) :
    ∃ body, fs r.file = .file body r.tail r.bad ∧
      clauseAt body r.tail r.bad r.lineno = .line text rest k eof ∧
      (1 ≤ k ∧ r.nl + k ≤ nphys body r.tail r.bad ∧ (eof = true → r.tail ≠ [])) ∧ LineStart body r.lineno := by
  have hne := gather_nonblank hg hni
  obtain ⟨body, hfs, hln, hle, hd, hst⟩ := h.cursor (hne.imp_right .inl)
  have hlen := length_of_drop hd hle
  refine ⟨body, hfs, by rw [clauseAt, hln, Nat.add_sub_cancel, hd]; exact hg, ?_, hln ▸ hst⟩
  cases eof with
  | false =>
    obtain ⟨used, l, h1, _, rfl⟩ := gather_line_false _ _ _ _ _ hg
    rw [h1, List.length_append, List.length_cons] at hlen
    exact ⟨by omega, by unfold nphys; omega, nofun⟩
  | true =>
    obtain ⟨_, _, rfl, htl, _⟩ := gather_line_true _ _ _ _ _ hg
    have htne : r.tail ≠ [] := hne.elim (fun h => htl (.inr h)) id
    exact ⟨by omega, by simp only [nphys, htne, ne_eq, not_false_eq_true, decide_true, Bool.or_true, if_true]; omega,
      fun _ => htne⟩

theorem wrapErr_some {r : Frame} {below : List Frame} {line : Nat} {kind : ErrKind} {d : Diag}
    (h : wrapErr r below line kind = some d) :
    d.file = r.file ∧ d.line = line ∧ d.chain = chainOf below ∧ d.kind = kind := by
  unfold wrapErr at h
  split at h
  · cases h; exact ⟨rfl, rfl, rfl, rfl⟩
  · cases h

theorem ctx_bounds (idx nl : Nat) (h : idx < nl) :
    ctxLo idx ≤ idx ∧ idx ≤ ctxHi idx nl ∧ ctxHi idx nl < nl := by
  unfold ctxLo ctxHi
  refine ⟨?_, ?_⟩
  · split
    · exact Nat.sub_le _ _
    · exact Nat.le_refl _
  · split
    · split
      · exact ⟨Nat.le_add_right _ _, by assumption⟩
      · exact ⟨Nat.le_sub_one_of_lt h, Nat.sub_one_lt (Nat.ne_of_gt (Nat.zero_lt_of_lt h))⟩
    · exact ⟨Nat.le_refl _, h⟩

/-- `r` is the frame before a call of `readLine`, `r'` the frame after it, which has recorded the lines read -/
theorem wrap_ok {fs : FS} {r r' : Frame} {below : List Frame} (kind : ErrKind)
    {body : List Bytes} {tail : Bytes} {bad : Bool} (hfs : fs r'.file = .file body tail bad)
    (hln : r.lineno = r.nl + 1) (hlt : r.nl < r'.nl) (hnp : r.nl + 1 ≤ nphys body tail bad)
    (hb : ∀ f ∈ below, Susp fs f) :
    ∃ d, wrapErr r' below r.lineno kind = some d ∧ DiagOK fs d := by
  have hnl : r.lineno - 1 < r'.nl := by rw [hln]; exact hlt
  have hc := ctx_bounds _ _ hnl
  exact ⟨_, if_pos hnl, ⟨body, tail, bad, hfs, by rw [hln]; exact Nat.succ_pos _, by rw [hln]; exact hnp⟩,
    hc, chain_ok hb⟩

theorem search_first {fs : FS} {name : Bytes} : ∀ (cands : List Name), search false fs name cands ≠ .notFound →
    ∃ pre p post, cands = pre ++ p :: post ∧ (∀ q ∈ pre, fs (goJoin q name) = .missing) ∧
      search false fs name cands = search false fs name [p] := by
  intro cands
  induction cands with
  | nil => exact fun h => absurd rfl h
  | cons p ps ih =>
    intro h
    cases hf : fs (goJoin p name) with
    | missing =>
      have he : search false fs name (p :: ps) = search false fs name ps := by simp only [search, hf]
      obtain ⟨pre, p', post, rfl, h2, h3⟩ := ih (he ▸ h)
      exact ⟨p :: pre, p', post, rfl, List.forall_mem_cons.mpr ⟨hf, h2⟩, he.trans h3⟩
    | _ => exact ⟨[], p, ps, rfl, nofun, by simp only [search, hf]⟩

theorem search_hit {fs : FS} {name : Bytes} (cands : List Name) {c : Name} {b : List Bytes} {t : Bytes} {bad : Bool}
    (h : search false fs name cands = .hit c b t bad) :
    ∃ pre p post, cands = pre ++ p :: post ∧ c = goJoin p name ∧
      (∀ q ∈ pre, fs (goJoin q name) = .missing) ∧ fs c = .file b t bad := by
  obtain ⟨pre, p, post, h1, h2, h3⟩ := search_first cands (by rw [h]; nofun)
  rw [h, search] at h3
  split at h3 <;> cases h3
  exact ⟨pre, p, post, h1, rfl, h2, by assumption⟩

theorem search_notFound {fs : FS} {name : Bytes} :
    ∀ (cands : List Name), search false fs name cands = .notFound →
      ∀ q ∈ cands, fs (goJoin q name) = .missing := by
  intro cands
  induction cands with
  | nil => nofun
  | cons p ps ih =>
    intro h
    unfold search at h
    split at h
    · rename_i hm; exact List.forall_mem_cons.mpr ⟨hm, ih h⟩
    all_goals cases h

theorem search_openErr {fs : FS} {name : Bytes} :
    ∀ (cands : List Name) {c : Name}, search false fs name cands = .openErr c →
      ∃ pre p post, cands = pre ++ p :: post ∧ c = goJoin p name ∧
        (∀ q ∈ pre, fs (goJoin q name) = .missing) ∧ fs c = .denied := by
  intro cands c h
  obtain ⟨pre, p, post, h1, h2, h3⟩ := search_first cands (by rw [h]; nofun)
  rw [h, search] at h3
  split at h3 <;> cases h3
  exact ⟨pre, p, post, h1, rfl, h2, by assumption⟩

theorem search_isDir {fs : FS} {name : Bytes} :
    ∀ (cands : List Name) {c : Name}, search false fs name cands = .isDir c →
      ∃ pre p post, cands = pre ++ p :: post ∧ c = goJoin p name ∧
        (∀ q ∈ pre, fs (goJoin q name) = .missing) ∧ fs c = .dir := by
  intro cands c h
  obtain ⟨pre, p, post, h1, h2, h3⟩ := search_first cands (by rw [h]; nofun)
  rw [h, search] at h3
  split at h3 <;> cases h3
  exact ⟨pre, p, post, h1, rfl, h2, by assumption⟩

/-- `ReadString` calls the frame can still serve before it is finished -/
def rem (f : Frame) : Nat := f.rest.length + (if f.tail = [] then 1 else 2)

/-- potential of a stack: every remaining call of a frame weighs a whole included file of the
levels above it -/
def phi (L : Nat) : List Frame → Nat
  | [] => 0
  | f :: below => rem f * weight L (9 - below.length) + phi L below

/-- no file has more than `L` complete lines -/
def Small (L : Nat) (fs : FS) : Prop := ∀ n b t bad, fs n = .file b t bad → b.length ≤ L

theorem weight_pos (L k : Nat) : 1 ≤ weight L k := by
  cases k <;> simp [weight]

theorem rem_pos (f : Frame) : 1 ≤ rem f := by
  unfold rem; split <;> omega

theorem rem_advance_lt {r : Frame} {text : Bytes} {rest : List Bytes} {k : Nat} {eof : Bool}
    (hg : gather r.tail r.bad [] r.rest 0 = .line text rest k eof) (ht : eof = true → r.tail ≠ []) :
    rem (r.advance rest k eof) + 1 ≤ rem r := by
  cases eof with
  | false =>
    obtain ⟨used, l, h1, _, _⟩ := gather_line_false _ _ _ _ _ hg
    show rest.length + (if r.tail = [] then 1 else 2) + 1 ≤ r.rest.length + (if r.tail = [] then 1 else 2)
    rw [h1, List.length_append, List.length_cons]
    omega
  | true =>
    obtain ⟨_, rfl, _⟩ := gather_line_true _ _ _ _ _ hg
    show 0 + 1 + 1 ≤ r.rest.length + _
    rw [if_neg (ht rfl)]; omega

theorem phi_step {L : Nat} {r r' : Frame} (below : List Frame) (h : rem r' + 1 ≤ rem r) :
    phi L (r' :: below) < phi L (r :: below) :=
  Nat.add_lt_add_right (Nat.mul_lt_mul_of_pos_right h (weight_pos L _)) _

theorem phi_pop {L : Nat} (r : Frame) (below : List Frame) : phi L below < phi L (r :: below) :=
  Nat.lt_add_of_pos_left (Nat.mul_pos (rem_pos r) (weight_pos L _))

theorem push_arith {a b c w w' M φ : Nat} (h : a + 1 ≤ b) (hc : c ≤ M) (hw : w = 1 + M * w') :
    c * w' + (a * w + φ) < b * w + φ := by
  have h1 := Nat.mul_le_mul_right w h
  have h2 := Nat.mul_le_mul_right w' hc
  rw [Nat.add_mul, Nat.one_mul] at h1
  omega

/-- a push pays for the whole included file (at most `L + 2` calls, each of the weight one level up) out of
the one call the including frame has just spent -/
theorem phi_push {L : Nat} {r r' c : Frame} (below : List Frame) (h : rem r' + 1 ≤ rem r)
    (hd : below.length + 1 < 10) (hc : rem c ≤ L + 2) :
    phi L (c :: r' :: below) < phi L (r :: below) :=
  push_arith h hc (by rw [show 9 - below.length = (9 - (below.length + 1)) + 1 by omega]; rfl)

theorem rem_new {L : Nat} {fs : FS} (hs : Small L fs) {cand : Name} {b : List Bytes} {t : Bytes}
    {bad : Bool} (hf : fs cand = .file b t bad) : rem (newFrame cand b t bad) ≤ L + 2 := by
  have := hs cand b t bad hf
  simp only [rem, newFrame]
  by_cases ht : t = [] <;> simp [ht] <;> omega

theorem new_ok {fs : FS} {cand : Name} {b : List Bytes} {t : Bytes} {bad : Bool}
    (hf : fs cand = .file b t bad) : FrameOK fs (newFrame cand b t bad) :=
  ⟨b, t, hf, rfl, Or.inl ⟨rfl, [], rfl, rfl, nofun⟩⟩

/-- what one call of `readLine` guarantees, starting from a state that satisfies `Inv` -/
def StepSpec (fs : FS) (ipath : List Name) (tbl : Table) (st : List Frame) : RL → Prop
  | .panic => False
  | .stop => True
  | .err d => DiagOK fs d ∧ d.kind ≠ .clause
  | .skip st' => Inv fs st' ∧ (∀ L, Small L fs → phi L st' < phi L st) ∧
      -- a push uses the first existing candidate in the documented order
      (∀ c r' below, st' = c :: r' :: below → st'.length = st.length + 1 →
        ∃ arg pre p post, goDir r'.file :: ipath = pre ++ p :: post ∧
          c.file = goJoin p (preprocReplace tbl arg).1 ∧
          (∀ q ∈ pre, fs (goJoin q (preprocReplace tbl arg).1) = .missing) ∧
          (∃ b t bad, fs c.file = .file b t bad) ∧ (preprocReplace tbl arg).2 = [])
  | .clause text line r' below' => Inv fs (r' :: below') ∧
      (∀ L, Small L fs → phi L (r' :: below') < phi L st) ∧ ClauseFacts fs text line r' below'

theorem err_spec {fs : FS} {ipath : List Name} {tbl : Table} {st : List Frame}
    {r : Frame} {below : List Frame} {start : Nat} {kind : ErrKind}
    (h : ∃ d, wrapErr r below start kind = some d ∧ DiagOK fs d) (hk : kind ≠ .clause) :
    StepSpec fs ipath tbl st (orPanic (wrapErr r below start kind)) := by
  obtain ⟨d, hw, hd⟩ := h
  rw [hw]
  exact ⟨hd, (wrapErr_some hw).2.2.2 ▸ hk⟩

/-- what `readLine` does with a line that is not skipped, given what is known of the frame `r'` it leaves and of the
line `start` it read from -/
theorem dispatch_spec {fs : FS} {ipath : List Name} {tbl : Table} {r r' : Frame} {below : List Frame}
    {start : Nat} {line : Bytes} (hdepth : below.length + 1 ≤ 10) (hbelow : ∀ f ∈ below, Susp fs f)
    (hadv : FrameOK fs r') (hrem : rem r' + 1 ≤ rem r)
    (hwrap : ∀ kind, ∃ d, wrapErr r' below start kind = some d ∧ DiagOK fs d)
    (hinc : (includeArg line).isSome = true → AfterInclude fs r'.file r'.lineno)
    (hcl : ∃ body tail bad raw rest k eof, fs r'.file = .file body tail bad ∧
      clauseAt body tail bad start = .line raw rest k eof ∧ line = trimSpace raw ∧ LineStart body start) :
    StepSpec fs ipath tbl (r :: below) (dispatch false fs ipath tbl r' below start line) := by
  unfold dispatch
  cases harg : includeArg line with
  | none => exact ⟨⟨hdepth, hadv, hbelow⟩, fun _ _ => phi_step below hrem, hwrap .clause, hcl⟩
  | some arg =>
    dsimp only
    split
    · exact err_spec (hwrap .depth) nofun
    · rename_i hdep
      split
      · exact err_spec (hwrap (.undef _)) nofun
      · rename_i hundef
        cases hs : search false fs (preprocReplace tbl arg).1 (goDir r'.file :: ipath) with
        | notFound => exact err_spec (hwrap (.notFound _)) nofun
        | openErr c => exact err_spec (hwrap (.openErr _)) nofun
        | isDir c => exact err_spec (hwrap (.isDir _)) nofun
        | hit cand b t bad =>
          obtain ⟨pre, p, post, e1, e2, e3, e4⟩ := search_hit _ hs
          refine ⟨⟨Nat.succ_le_of_lt (Nat.lt_of_not_le hdep), new_ok e4,
              List.forall_mem_cons.mpr ⟨⟨hadv, hinc (by rw [harg]; rfl)⟩, hbelow⟩⟩,
            fun _ hsm => phi_push below hrem (Nat.lt_of_not_le hdep) (rem_new hsm e4), ?_⟩
          rintro c r'' bl ⟨⟩ _
          exact ⟨arg, pre, p, post, e1, e2, e3, ⟨b, t, bad, e4⟩, Decidable.of_not_not hundef⟩

theorem readLine_spec {fs : FS} (ipath : List Name) (tbl : Table) :
    ∀ (st : List Frame), Inv fs st → StepSpec fs ipath tbl st (readLine fs ipath tbl st)
  | [], _ => trivial
  | r :: below, ⟨hdepth, hok, hbelow⟩ => by
    show StepSpec fs ipath tbl (r :: below) (readLineG false fs ipath tbl (r :: below))
    unfold readLineG
    cases hg : gather r.tail r.bad [] r.rest 0 with
    | readErr k =>
      simp only [hg]
      obtain ⟨hbad, rfl⟩ := gather_readErr _ _ _ _ _ hg
      obtain ⟨body, hfs, hln, hle, _⟩ := hok.cursor (.inr (.inr hbad))
      exact err_spec (wrap_ok (r' := { r with nl := r.nl + (0 + r.rest.length) + 1 }) .read hfs hln
        (Nat.lt_succ_of_le (Nat.le_add_right _ _))
        (by rw [nphys, hbad]; exact Nat.succ_le_succ hle) hbelow) nofun
    | eofCont k =>
      simp only [hg]
      obtain ⟨_, _, rfl, hne, _⟩ := gather_eofCont _ _ _ _ _ hg
      obtain ⟨body, hfs, hln, hle, hd, _⟩ := hok.cursor (.inl (hne rfl))
      have hlen := length_of_drop hd hle
      have := List.length_pos_iff.mpr (hne rfl)
      exact err_spec (wrap_ok (r' := r.advance [] _ true) .eofCont hfs hln
        (Nat.lt_add_of_pos_right (Nat.succ_pos _)) (by unfold nphys; omega) hbelow) nofun
    | line text rest k eof =>
      simp only [hg]
      have hadv := advance_ok hok hg
      by_cases hign : ignoreLine (trimSpace text) = true
      · simp only [hign, if_true]
        cases eof with
        | true =>
          cases below with
          | nil => trivial
          | cons f below' =>
            exact ⟨⟨Nat.le_of_succ_le hdepth, (hbelow f List.mem_cons_self).1,
              fun g hg' => hbelow g (List.mem_cons_of_mem _ hg')⟩, fun _ _ => phi_pop r (f :: below'),
              fun c r' bl _ hl => absurd hl (Nat.ne_of_lt (Nat.lt_add_of_pos_right (k := 2) (Nat.succ_pos 1)))⟩
        | false =>
          exact ⟨⟨hdepth, hadv, hbelow⟩, fun _ _ => phi_step below (rem_advance_lt hg nofun),
            fun c r' bl _ hl => absurd hl (Nat.ne_of_lt (Nat.lt_succ_self _))⟩
      · have hni : ignoreLine (trimSpace text) = false := Bool.not_eq_true _ ▸ hign
        simp only [hni, Bool.false_eq_true, if_false]
        obtain ⟨body, hfs, hcl, ⟨hk1, hnp, htl⟩, hstart⟩ := line_pos hok hg hni
        obtain ⟨_, _, _, hln, _⟩ := hok
        have hlt : r.nl < r.nl + k := Nat.lt_add_of_pos_right hk1
        exact dispatch_spec hdepth hbelow hadv (rem_advance_lt hg htl)
          (fun kind => wrap_ok (r' := r.advance rest k eof) kind hfs hln hlt (Nat.le_trans hlt hnp) hbelow)
          (fun hinc => ⟨body, _, _, hfs, by show 2 ≤ r.lineno + k; omega, by show r.lineno + k ≤ _ + 1; omega,
            k, text, rest, eof, hk1, by show k < r.lineno + k; omega,
            by show clauseAt body r.tail r.bad (r.lineno + k - k) = _; rw [Nat.add_sub_cancel]; exact hcl, hinc⟩)
          ⟨body, _, _, text, rest, k, eof, hfs, hcl, rfl, hstart⟩

end Shk.Reader
