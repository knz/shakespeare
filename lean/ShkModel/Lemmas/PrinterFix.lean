import ShkModel.Lemmas.PrinterSched
/-! Lemmas for C10: printing two equivalent configurations gives the same text up to the order
of each observer's `watches` clauses (`sameText_print`: the scheduler run on equivalent audiences, step by
step); the decision procedure `sameText` is sound; parameter lookup after `defineAll`. -/
namespace Shk.Printer
open Shk.Story (Act)

/-! `nonW`, `eraseK`, `wOf` are `notWatch`, `eraseC`, `watchesOf` on what the scheduler emits, a list of
(member, clause) pairs, and `KSame` is `SameText` there (`sameText_of`). -/

def nonW (k : String × AClause) : Bool := !isWatchA k.2
def eraseK (k : String × AClause) : String × AClause := (k.1, eraseA k.2)
def wOf (m : String) (a : List (String × AClause)) : List AClause :=
  (a.filter fun k => decide (k.1 = m) && isWatchA k.2).map (·.2)

/-- `len`: the scheduler tests what a sweep emitted for emptiness, and two runs have to agree on it -/
structure KSame (a b : List (String × AClause)) : Prop where
  rest : (a.filter nonW).map eraseK = (b.filter nonW).map eraseK
  watches : ∀ m, (wOf m a).Perm (wOf m b)
  len : a.length = b.length

theorem KSame.nil : KSame [] [] := ⟨rfl, fun _ => .refl _, rfl⟩

theorem KSame.append {a b a' b' : List (String × AClause)} (h1 : KSame a a') (h2 : KSame b b') :
    KSame (a ++ b) (a' ++ b') := by
  refine ⟨?_, ?_, ?_⟩
  · simp only [List.filter_append, List.map_append, h1.rest, h2.rest]
  · intro m
    simp only [wOf, List.filter_append, List.map_append]
    exact (h1.watches m).append (h2.watches m)
  · simp [h1.len, h2.len]

theorem isEmpty_congr {α β : Type} {a : List α} {b : List β} (h : a.length = b.length) :
    a.isEmpty = b.isEmpty := by
  cases a <;> cases b <;> simp_all

theorem eraseA_equiv {x y : AClause} (h : x.Equiv y) : eraseA x = eraseA y := by
  unfold AClause.Equiv at h
  split at h
  · simp [eraseA, h.1]
  · simp [eraseA, h.1, h.2.1, h.2.2.1]
  · simp [eraseA, h.1, h.2.1]
  · rw [h]

theorem isWatchA_equiv {x y : AClause} (h : x.Equiv y) : isWatchA x = isWatchA y := by
  have : ∀ z, isWatchA (eraseA z) = isWatchA z := fun z => by cases z <;> rfl
  rw [← this x, eraseA_equiv h, this]

theorem defines_equiv {x y : AClause} (h : x.Equiv y) : defines x = defines y := by
  have : ∀ z, defines (eraseA z) = defines z := fun z => by cases z <;> rfl
  rw [← this x, eraseA_equiv h, this]

theorem ready_equiv {x y : AClause} (h : x.Equiv y) (undef : List String) : ready undef x = ready undef y := by
  have hp : ∀ {a b : List Var}, a.Perm b → ∀ v, v ∈ compVars a ↔ v ∈ compVars b := fun h v => by
    rw [mem_compVars, mem_compVars]; exact h.mem_iff
  have hu : ∀ v, v ∈ uses x ↔ v ∈ uses y := by
    unfold AClause.Equiv at h
    split at h
    · exact hp h.2
    · exact hp h.2.2.2
    · exact hp h.2.2
    · rw [h]; exact fun _ => .rfl
  rw [Bool.eq_iff_iff]
  simp only [ready, List.all_eq_true, hu]

theorem afterPrint_equiv {x y : AClause} (h : x.Equiv y) (undef : List String) :
    afterPrint undef x = afterPrint undef y := by
  simp only [afterPrint, defines_equiv h]

/-- `KSame` for the free clauses of one member -/
def FreeEq (f f' : List AClause) : Prop :=
  f.filter (fun x => !isWatchA x) = f'.filter (fun x => !isWatchA x) ∧
  (f.filter isWatchA).Perm (f'.filter isWatchA)

/-- what is pending for a member in two runs of the scheduler on equivalent audiences -/
structure PendEq (p p' : Pend) : Prop where
  name : p.name = p'.name
  mentioned : p.mentioned = p'.mentioned
  chain : All₂ AClause.Equiv p.chain p'.chain
  chainNW : ∀ x ∈ p.chain, isWatchA x = false
  free : FreeEq p.free p'.free

def tag (n : String) (l : List AClause) : List (String × AClause) := l.map fun c => (n, c)

theorem FreeEq.length {f f' : List AClause} (h : FreeEq f f') : f.length = f'.length := by
  have split : ∀ l : List AClause, l.length = (l.filter isWatchA).length + (l.filter fun x => !isWatchA x).length :=
    fun l => by
      induction l with
      | nil => rfl
      | cons x l ih => cases h : isWatchA x <;> simp [h, ih] <;> omega
  rw [split f, split f', h.1, h.2.length_eq]

theorem FreeEq.filter {f f' : List AClause} (h : FreeEq f f') (p : AClause → Bool) :
    FreeEq (f.filter p) (f'.filter p) := by
  have e : ∀ (q : AClause → Bool) (l : List AClause), (l.filter p).filter q = (l.filter q).filter p :=
    fun q l => by simp only [List.filter_filter, Bool.and_comm]
  exact ⟨by rw [e, e, h.1], by rw [e, e]; exact h.2.filter p⟩

theorem all2_equiv_length {l l' : List AClause} (h : All₂ AClause.Equiv l l') : l.length = l'.length :=
  h.length_eq

theorem tag_chain {n : String} {l l' : List AClause} (h : All₂ AClause.Equiv l l')
    (hn : ∀ x ∈ l, isWatchA x = false) : KSame (tag n l) (tag n l') := by
  have hn' : ∀ x ∈ l', isWatchA x = false := fun x hx =>
    let ⟨a, ha, hab⟩ := h.mem_right hx; isWatchA_equiv hab ▸ hn a ha
  have f1 : ∀ l : List AClause, (∀ x ∈ l, isWatchA x = false) → (tag n l).filter nonW = tag n l :=
    fun l hl => List.filter_eq_self.mpr fun k hk => by
      obtain ⟨x, hx, rfl⟩ := List.mem_map.mp hk
      simp [nonW, hl x hx]
  have f2 : ∀ (m : String) (l : List AClause), (∀ x ∈ l, isWatchA x = false) → wOf m (tag n l) = [] :=
    fun m l hl => by
      rw [wOf, List.map_eq_nil_iff, List.filter_eq_nil_iff]
      intro k hk
      obtain ⟨x, hx, rfl⟩ := List.mem_map.mp hk
      simp [hl x hx]
  refine ⟨?_, fun m => by rw [f2 m l hn, f2 m l' hn'], by simp [tag, h.length_eq]⟩
  rw [f1 l hn, f1 l' hn', tag, tag, List.map_map, List.map_map]
  exact h.map_eq fun a b hab => by simp [eraseK, eraseA_equiv hab]

theorem tag_free {n : String} {f f' : List AClause} (h : FreeEq f f') : KSame (tag n f) (tag n f') := by
  have f1 : ∀ l : List AClause, (tag n l).filter nonW = tag n (l.filter fun x => !isWatchA x) :=
    fun l => by simp only [tag, List.filter_map]; rfl
  have f2 : ∀ (m : String) (l : List AClause), wOf m (tag n l) = if n = m then l.filter isWatchA else [] :=
    fun m l => by
      simp only [wOf, tag, List.filter_map, List.map_map, Function.comp_def]
      by_cases hnm : n = m <;> simp [hnm]
  refine ⟨by rw [f1, f1, h.1], fun m => ?_, by simp [tag, h.length]⟩
  rw [f2, f2]
  split
  · exact h.2
  · exact .refl _

theorem takeChain_sim : ∀ {ch ch' : List AClause}, All₂ AClause.Equiv ch ch' → ∀ (undef : List String),
    All₂ AClause.Equiv (takeChain undef ch).1 (takeChain undef ch').1 ∧
    All₂ AClause.Equiv (takeChain undef ch).2.1 (takeChain undef ch').2.1 ∧
    (takeChain undef ch).2.2 = (takeChain undef ch').2.2
  | _, _, .nil, _ => ⟨.nil, .nil, rfl⟩
  | _, _, .cons (a := a) hab hrest, undef => by
    simp only [takeChain, ← ready_equiv hab undef, ← afterPrint_equiv hab undef]
    by_cases hr : ready undef a = true
    · obtain ⟨h1, h2, h3⟩ := takeChain_sim hrest (afterPrint undef a)
      simpa [hr] using ⟨.cons hab h1, h2, h3⟩
    · simpa [hr] using ⟨All₂.nil, All₂.cons hab hrest⟩

theorem takeChain_sub : ∀ (ch : List AClause) (undef : List String),
    (∀ x ∈ (takeChain undef ch).1, x ∈ ch) ∧ (∀ x ∈ (takeChain undef ch).2.1, x ∈ ch)
  | [], _ => by simp [takeChain]
  | c :: cs, undef => by
    by_cases hr : ready undef c = true
    · obtain ⟨h1, h2⟩ := takeChain_sub cs (afterPrint undef c)
      simpa [takeChain, hr] using ⟨fun x hx => .inr (h1 x hx), fun x hx => .inr (h2 x hx)⟩
    · simp [takeChain, hr]

theorem visit_sim {p p' : Pend} (h : PendEq p p') (undef : List String) :
    KSame (tag p.name (visit undef p).1) (tag p'.name (visit undef p').1) ∧
    PendEq (visit undef p).2.1 (visit undef p').2.1 ∧ (visit undef p).2.2 = (visit undef p').2.2 := by
  obtain ⟨h1, h2, h3⟩ := takeChain_sim h.chain undef
  obtain ⟨s1, s2⟩ := takeChain_sub p.chain undef
  have ks := (tag_chain (n := p.name) h1 fun x hx => h.chainNW x (s1 x hx)).append
    (tag_free (n := p.name) (h.free.filter (ready (takeChain undef p.chain).2.2)))
  simp only [tag, ← List.map_append] at ks
  have hemp := isEmpty_congr (by simpa only [List.length_map] using ks.len)
  refine ⟨by simpa [visit, tag, ← h3, ← h.name] using ks,
    ⟨h.name, by simp only [visit, h.mentioned, ← h3, hemp], h2,
    fun x hx => h.chainNW x (s2 x hx), ?_⟩, h3⟩
  simpa only [visit, ← h3] using h.free.filter _

theorem sweep_sim : ∀ {ps ps' : List Pend}, All₂ PendEq ps ps' → ∀ (undef : List String),
    KSame (sweep undef ps).1 (sweep undef ps').1 ∧ All₂ PendEq (sweep undef ps).2.1 (sweep undef ps').2.1 ∧
    (sweep undef ps).2.2 = (sweep undef ps').2.2
  | _, _, .nil, _ => ⟨.nil, .nil, rfl⟩
  | _, _, .cons (a := p) hab hrest, undef => by
    obtain ⟨v1, v2, v3⟩ := visit_sim hab undef
    simp only [sweep, ← v2.mentioned, ← v3, ← hab.name]
    by_cases hm : (visit undef p).2.1.mentioned = true
    · obtain ⟨i1, i2, i3⟩ := sweep_sim hrest (visit undef p).2.2
      simpa [hm] using ⟨(hab.name ▸ v1 : KSame (tag p.name _) (tag p.name _)).append i1, All₂.cons v2 i2, i3⟩
    · simpa [hm] using ⟨KSame.nil, All₂.cons hab hrest⟩

theorem leftover_sim : ∀ {ps ps' : List Pend}, All₂ PendEq ps ps' → KSame (leftover ps) (leftover ps')
  | _, _, .nil => .nil
  | _, _, .cons (a := p) hab hrest => by
    rw [leftover_cons, leftover_cons, List.map_append, List.map_append, List.append_assoc,
      List.append_assoc, ← hab.name]
    exact (tag_chain hab.chain hab.chainNW).append ((tag_free hab.free).append (leftover_sim hrest))

theorem schedLoop_sim : ∀ (fuel : Nat) (undef : List String) {ps ps' : List Pend}, All₂ PendEq ps ps' →
    KSame (schedLoop fuel undef ps) (schedLoop fuel undef ps')
  | 0, _, _, _, h => leftover_sim h
  | k + 1, undef, ps, ps', h => by
    obtain ⟨s1, s2, s3⟩ := sweep_sim h undef
    simp only [schedLoop, ← isEmpty_congr s1.len, ← s3]
    cases (sweep undef ps).1.isEmpty with
    | true => exact leftover_sim s2
    | false => exact s1.append (schedLoop_sim k _ s2)

theorem pendOf_equiv {m m' : Member} (h : Member.Equiv m m') : PendEq (pendOf m) (pendOf m') := by
  have hw : ∀ v, isWatchA (watchClause v) = true := fun v => by cases v <;> rfl
  refine ⟨h.name, rfl, ?_, fun x hx => chain_not_watch hx, ?_, ?_⟩
  · have ha := h.active
    have he := h.expects
    simp only [pendOf, chainOf]
    refine (All₂.append ?_ (h.assigns.map₂ (S := AClause.Equiv) (f := .assign) (g := .assign)
      fun _ _ _ hab => hab)).append ?_
    · cases hm : m.active <;> cases hm' : m'.active <;> rw [hm, hm'] at ha
      · exact .nil
      · exact ha.elim
      · exact ha.elim
      · exact .cons ha .nil
    · rcases hm : m.expects with _ | ⟨md, e⟩ <;> rcases hm' : m'.expects with _ | ⟨md', e'⟩ <;> rw [hm, hm'] at he
      · exact .nil
      · exact he.elim
      · exact he.elim
      · exact .cons he .nil
  · have : ∀ l : List Var, (l.map watchClause).filter (fun x => !isWatchA x) = [] := fun l => by
      simp [List.filter_eq_nil_iff, hw]
    simp only [pendOf, freeOf, List.filter_append, this, h.ylabel, h.noplot]
  · have : ∀ l : List Var, (l.map watchClause).filter isWatchA = l.map watchClause := fun l => by
      simp [List.filter_eq_self, hw]
    simp only [pendOf, freeOf, List.filter_append, this, h.ylabel, h.noplot]
    exact ((h.obs.map watchClause).append_right _).append_right _

theorem sched_sim {ms ms' : List Member} (h : All₂ Member.Equiv ms ms') : KSame (sched ms) (sched ms') := by
  have ht : targetsOf ms = targetsOf ms' := by
    induction h with
    | nil => rfl
    | cons hab _ ih =>
      simp only [targetsOf, List.flatMap_cons] at ih ⊢
      rw [ih, hab.assigns.map_eq fun _ _ h => h.1]
  have hp : All₂ PendEq (pendsOf ms) (pendsOf ms') :=
    (h.map₂ fun _ _ _ hab => pendOf_equiv hab).filter₂ fun _ _ hab => congrArg (!·) <|
      isEmpty_congr (by rw [List.length_append, List.length_append, hab.chain.length_eq, hab.free.length])
  simp only [sched, clauseCount, (leftover_sim hp).len, ht]
  exact schedLoop_sim _ _ hp

theorem watchesOf_append (m : String) : ∀ (a b : List Clause),
    watchesOf m (a ++ b) = watchesOf m a ++ watchesOf m b
  | [], _ => rfl
  | x :: a, b => by
    cases x <;> simp only [List.cons_append, watchesOf, watchesOf_append m a b]
    split <;> rfl

theorem watchesOf_aud (m : String) : ∀ (a : List (String × AClause)),
    watchesOf m (a.map fun k => Clause.aud k.1 k.2) = wOf m a
  | [] => rfl
  | k :: a => by
    simp only [List.map_cons, watchesOf, watchesOf_aud m a, wOf, List.filter_cons]
    split <;> simp [*]

theorem filter_notWatch_aud : ∀ (a : List (String × AClause)),
    ((a.map fun k => Clause.aud k.1 k.2).filter notWatch).map eraseC =
      ((a.filter nonW).map eraseK).map fun k => Clause.aud k.1 k.2
  | [] => rfl
  | k :: a => by
    cases hw : isWatchA k.2 <;>
      simp [notWatch, nonW, hw, eraseC, eraseK, filter_notWatch_aud a]

theorem sameText_of {pre post : List Clause} {a b : List (String × AClause)} (h : KSame a b) :
    SameText (pre ++ a.map (fun k => Clause.aud k.1 k.2) ++ post)
      (pre ++ b.map (fun k => Clause.aud k.1 k.2) ++ post) := by
  refine ⟨?_, fun m => ?_⟩
  · simp only [List.filter_append, List.map_append, filter_notWatch_aud, h.rest]
  · simp only [watchesOf_append, watchesOf_aud]
    exact ((h.watches m).append_left _).append_right _

theorem printHead_equiv {c c' : Cfg} (h : Cfg.Equiv c c') : printHead c = printHead c' := by
  have hs : printStory c = printStory c' := by
    have hr := h.repeat_
    simp only [printStory, effRepeat, ← h.story] at hr ⊢
    by_cases hne : c.story = []
    · simp [hne]
    · simp only [hne, if_false] at hr ⊢
      cases h1 : c.repFrom <;> cases h2 : c'.repFrom <;> simp [h1, h2] at hr ⊢
      exact ⟨hr.1, hr.2.2⟩
  simp only [printHead, h.titles, h.authors, h.attn, h.roles, h.actors, h.tempo, h.scenes, hs]

theorem printInterp_equiv : ∀ {ms ms' : List Member}, All₂ Member.Equiv ms ms' → printInterp ms = printInterp ms'
  | _, _, .nil => rfl
  | _, _, .cons (a := m) (b := m') hab hrest => by
    have ih := printInterp_equiv hrest
    simp only [printInterp, List.flatMap_cons] at ih ⊢
    rw [ih]
    congr 1
    have he := hab.expects.isSome_eq
    cases h1 : m.expects <;> cases h2 : m'.expects <;> simp [h1, h2] at he ⊢
    obtain ⟨hb, hg⟩ := hab.foul (by rw [h1]; rfl)
    simp [hb, hg, hab.name]

theorem sameText_print {c c' : Cfg} (h : Cfg.Equiv c c') : SameText (print c) (print c') := by
  simp only [print, printWith, ← printHead_equiv h, ← printInterp_equiv h.members]
  exact sameText_of (sched_sim h.members)

theorem Clause.beq_sound {a b : Clause} (h : a.beq b = true) : a = b := by
  unfold Clause.beq at h
  -- in the default arm `h` is `false = true` and the goal goes
  split at h <;> simp only [Bool.and_eq_true, beq_iff_eq, Bool.false_eq_true] at h
  all_goals simp only [h]

theorem clausesBeq_sound : ∀ {a b : List Clause}, clausesBeq a b = true → a = b
  | [], [], _ => rfl
  | [], _ :: _, h | _ :: _, [], h => nomatch h
  | x :: a, y :: b, h => by
    simp only [clausesBeq, Bool.and_eq_true] at h
    rw [Clause.beq_sound h.1, clausesBeq_sound h.2]

theorem watchesOf_not_mentioned (m : String) : ∀ (l : List Clause), m ∉ membersIn l → watchesOf m l = []
  | [], _ => rfl
  | x :: l, h => by
    cases x with
    | aud n c =>
      simp only [membersIn, List.mem_cons, not_or] at h
      simp [watchesOf, Ne.symm h.1, watchesOf_not_mentioned m l h.2]
    | _ => exact watchesOf_not_mentioned m l h

theorem sameText_sound {a b : List Clause} (h : sameText a b = true) : SameText a b := by
  simp only [sameText, Bool.and_eq_true, List.all_eq_true] at h
  refine ⟨clausesBeq_sound h.1, fun m => ?_⟩
  by_cases hm : m ∈ membersIn a ++ membersIn b
  · exact List.isPerm_iff.mp (h.2 m hm)
  · simp only [List.mem_append, not_or] at hm
    rw [watchesOf_not_mentioned m a hm.1, watchesOf_not_mentioned m b hm.2]

theorem lookupP_append (a b : List (String × String)) (n : String) :
    lookupP (a ++ b) n = (lookupP a n).or (lookupP b n) := by
  simp only [lookupP, List.find?_append]
  cases a.find? (·.1 == n) <;> rfl

theorem lookup_defineAll : ∀ (l tbl : List (String × String)) (n : String),
    lookupP (defineAll tbl l) n = (lookupP tbl n).or (lookupP l n)
  | [], tbl, n => by simp [defineAll, lookupP]
  | (k, v) :: l, tbl, n => by
    rw [defineAll, lookup_defineAll l, show (k, v) :: l = [(k, v)] ++ l from rfl, lookupP_append [(k, v)] l,
      ← Option.or_assoc]
    congr 1
    split
    · -- `k` is bound already; if `n` is not, then `k ≠ n` and the new binding is not looked at
      rename_i hk
      cases ht : lookupP tbl n with
      | some y => rfl
      | none =>
        obtain ⟨y, hy, hyk⟩ := List.any_eq_true.mp hk
        have hyn : ¬ y.1 = n := by simpa [lookupP] using List.find?_eq_none.mp (Option.map_eq_none_iff.mp ht) y hy
        have : (k == n) = false := beq_eq_false_iff_ne.mpr fun e => hyn ((beq_iff_eq.mp hyk).trans e)
        simp [lookupP, this]
    · exact lookupP_append tbl [(k, v)] n

end Shk.Printer
