import ShkModel.Model.Prompt
/-! The prompter over an abstract clock (C04 / C05).  For each run function (`runLine`, `runScene`,
`runScenes`, and the chain of acts `Acts` that `loop` performs) the same four facts, by functional induction: where a
record comes from and its time window (`Bnd`); success ⇔ no record failed fatally; the ordering invariant `Seq`;
success ⇒ the positions are those of the script.  Lines and scenes moreover end with their last record
(`_end_attained`), and the records of one line of a scene are those of the line run alone (`runScene_line`).
The repeat bookkeeping is done on the graph `LoopStep` of `loop`; how often a position occurs in `expectedTrace` is
counted from `expectedFrom`.  `Ex` is the performance of the non-vacuity examples. -/
namespace Shk.Prompt

/-- a fatal failure: the command failed and its step carries no `?` mark -/
def Rec.bad (r : Rec) : Prop := r.ok = false ∧ r.failOk = false

theorem Rec.bad_iff (r : Rec) : r.bad ↔ (!r.ok && !r.failOk) = true := by simp [Rec.bad]

/-- script order; distinct lines of one scene are unrelated -/
def Pos.before (p q : Pos) : Prop :=
  p.actOcc < q.actOcc ∨ p.actOcc = q.actOcc ∧
    (p.scene < q.scene ∨ p.scene = q.scene ∧ p.line = q.line ∧ p.step < q.step)

theorem groupBefore_iff (p q : Pos) :
    p.groupBefore q = true ↔ (p.actOcc < q.actOcc ∨ (p.actOcc = q.actOcc ∧ p.scene < q.scene)) := by
  simp [Pos.groupBefore]

/-- the one ordering invariant of a trace: whatever precedes a record in script order did not fail
fatally and had stopped when that record started.  Line order, the barrier and "nothing is performed
after a fatal failure" are its three readings. -/
def Seq (rs : List Rec) : Prop :=
  ∀ r ∈ rs, ∀ q ∈ rs, r.pos.before q.pos → ¬ r.bad ∧ r.stop ≤ q.start

theorem Seq.single (r : Rec) : Seq [r] := by
  intro p hp q hq hb
  rw [List.mem_singleton.mp hp, List.mem_singleton.mp hq] at hb
  simp only [Pos.before] at hb; omega

theorem Seq.append {xs ys : List Rec} (hx : Seq xs) (hy : Seq ys)
    (h : ∀ r ∈ xs, ∀ q ∈ ys, ¬ q.pos.before r.pos ∧ (r.pos.before q.pos → ¬ r.bad ∧ r.stop ≤ q.start)) :
    Seq (xs ++ ys) := by
  intro r hr q hq hb
  rcases List.mem_append.mp hr with hr | hr <;> rcases List.mem_append.mp hq with hq | hq
  · exact hx r hr q hq hb
  · exact (h r hr q hq).2 hb
  · exact absurd hb (h q hq r hr).1
  · exact hy r hr q hq hb

theorem Seq.lineOrder {rs : List Rec} (h : Seq rs) : lineOrderOk rs = true := by
  simp only [lineOrderOk, List.all_eq_true, Bool.or_eq_true, Bool.not_eq_true', decide_eq_true_eq]
  intro r hr q hq
  cases hc : (r.pos.actOcc == q.pos.actOcc && r.pos.scene == q.pos.scene && r.pos.line == q.pos.line &&
      decide (r.pos.step < q.pos.step))
  · exact Or.inl rfl
  · simp only [Bool.and_eq_true, beq_iff_eq, decide_eq_true_eq] at hc
    exact Or.inr (h r hr q hq (by simp only [Pos.before]; omega)).2

theorem Seq.barrier {rs : List Rec} (h : Seq rs) : barrierOk rs = true := by
  simp only [barrierOk, List.all_eq_true, Bool.or_eq_true, Bool.not_eq_true', decide_eq_true_eq]
  intro r hr q hq
  cases hc : r.pos.groupBefore q.pos
  · exact Or.inl rfl
  · rw [groupBefore_iff] at hc
    exact Or.inr (h r hr q hq (by simp only [Pos.before]; omega)).2

/-- the time window of a run that starts at `t` and ends at `e` -/
def Bnd (t e : Nat) (rs : List Rec) : Prop :=
  ∀ r ∈ rs, t ≤ r.start ∧ r.start ≤ r.stop ∧ r.stop ≤ e

theorem Bnd.mono {t t' e e' : Nat} {rs : List Rec} (h : Bnd t e rs) (ht : t' ≤ t) (he : e ≤ e') :
    Bnd t' e' rs := fun r hr => by have := h r hr; omega

theorem Bnd.append {t e : Nat} {xs ys : List Rec} (hx : Bnd t e xs) (hy : Bnd t e ys) :
    Bnd t e (xs ++ ys) := fun r hr => by
  rcases List.mem_append.mp hr with hr | hr
  · exact hx r hr
  · exact hy r hr

/-- the `r` of `runLine` -/
def mkRec (env : Env) (ao a sc ln : Nat) (actor : String) (k t : Nat) (st : Step) : Rec :=
  { pos := ⟨ao, a, sc, ln, k⟩, actor := actor, action := st.action,
    start := t + (env.occ ⟨ao, a, sc, ln, k⟩).jitter,
    stop := t + (env.occ ⟨ao, a, sc, ln, k⟩).jitter + (env.occ ⟨ao, a, sc, ln, k⟩).dur,
    ok := (env.occ ⟨ao, a, sc, ln, k⟩).ok, failOk := st.failOk }

section line
variable {env : Env} {ao a sc ln : Nat} {actor : String} {k t : Nat} {steps : List Step}

theorem runLine_le : t ≤ (runLine env ao a sc ln actor k t steps).2.1 := by
  fun_induction runLine env ao a sc ln actor k t steps with
  | case1 => exact Nat.le_refl _
  -- `o`, `r`, `x` are the `let`s of the definition; `show` unfolds them where `omega` must see through
  | case2 k t st rest o r h => show t ≤ t + o.jitter + o.dur; omega
  | case3 k t st rest o r h x ih =>
    have : t ≤ r.stop := by show t ≤ t + o.jitter + o.dur; omega
    exact Nat.le_trans this ih

theorem runLine_mem {r : Rec} (hr : r ∈ (runLine env ao a sc ln actor k t steps).1) :
    ∃ i t' st, steps[i]? = some st ∧ t ≤ t' ∧ r = mkRec env ao a sc ln actor (k + i) t' st ∧
      r.stop ≤ (runLine env ao a sc ln actor k t steps).2.1 := by
  fun_induction runLine env ao a sc ln actor k t steps with
  | case1 => cases hr
  | case2 k t st rest o r' h =>
    rw [List.mem_singleton.mp hr]
    exact ⟨0, t, st, rfl, Nat.le_refl _, rfl, Nat.le_refl _⟩
  | case3 k t st rest o r' h x ih =>
    rcases List.mem_cons.mp hr with hr | hr
    · rw [hr]; exact ⟨0, t, st, rfl, Nat.le_refl _, rfl, runLine_le⟩
    · obtain ⟨i, t', st', h1, h2, h3, h4⟩ := ih hr
      refine ⟨i + 1, t', st', h1, ?_, by rw [h3, Nat.add_right_comm, Nat.add_assoc], h4⟩
      have : t ≤ r'.stop := by show t ≤ t + o.jitter + o.dur; omega
      omega

theorem runLine_ok : (runLine env ao a sc ln actor k t steps).2.2 = true ↔
    ∀ r ∈ (runLine env ao a sc ln actor k t steps).1, ¬ r.bad := by
  fun_induction runLine env ao a sc ln actor k t steps with
  | case1 => simp
  | case2 k t st rest o r h =>
    exact ⟨(nomatch ·), fun hn => absurd (r.bad_iff.mpr h) (hn r (List.mem_singleton.mpr rfl))⟩
  | case3 k t st rest o r h x ih =>
    exact ih.trans ⟨fun hx => List.forall_mem_cons.mpr ⟨mt r.bad_iff.mp h, hx⟩,
      fun hx => (List.forall_mem_cons.mp hx).2⟩

theorem runLine_seq : Seq (runLine env ao a sc ln actor k t steps).1 := by
  fun_induction runLine env ao a sc ln actor k t steps with
  | case1 => intro r hr; cases hr
  | case2 k t st rest o r h => exact Seq.single r
  | case3 k t st rest o r h x ih =>
    refine Seq.append (Seq.single r) ih fun p hp q hq => ?_
    obtain ⟨i, t', st', _, h2, rfl, _⟩ := runLine_mem hq
    rw [List.mem_singleton.mp hp]
    refine ⟨?_, fun _ => ⟨mt r.bad_iff.mp h, ?_⟩⟩
    · simp only [Pos.before, mkRec, r]; omega
    · simp only [mkRec]; omega

theorem runLine_ok_pos (hok : (runLine env ao a sc ln actor k t steps).2.2 = true) :
    (runLine env ao a sc ln actor k t steps).1.map (·.pos) =
      (List.range' k steps.length).map (fun i => (⟨ao, a, sc, ln, i⟩ : Pos)) := by
  fun_induction runLine env ao a sc ln actor k t steps with
  | case1 => rfl
  | case2 => cases hok
  | case3 k t st rest o r h x ih =>
    simp only [List.map_cons, List.length_cons, List.range'_succ]
    rw [ih hok]

variable (env ao a sc ln actor k t) in
theorem runLine_head (st : Step) (rest : List Step) :
    ∃ q ∈ (runLine env ao a sc ln actor k t (st :: rest)).1, q.pos = ⟨ao, a, sc, ln, k⟩ := by
  simp only [runLine]; split <;> exact ⟨_, List.mem_cons_self, rfl⟩

theorem runLine_next {r : Rec} (hr : r ∈ (runLine env ao a sc ln actor k t steps).1) (hnb : ¬ r.bad)
    (hlt : r.pos.step + 1 < k + steps.length) :
    ∃ q ∈ (runLine env ao a sc ln actor k t steps).1, q.pos = { r.pos with step := r.pos.step + 1 } := by
  fun_induction runLine env ao a sc ln actor k t steps with
  | case1 => cases hr
  | case2 k t st rest o r' h =>
    rw [List.mem_singleton.mp hr] at hnb; exact absurd (r'.bad_iff.mpr h) hnb
  | case3 k t st rest o r' h x ih =>
    rcases List.mem_cons.mp hr with e | hr'
    · cases rest with
      | nil => rw [e] at hlt; simp only [r', List.length_cons, List.length_nil] at hlt; omega
      | cons st' rest' =>
        obtain ⟨q, hq, hp⟩ := runLine_head env ao a sc ln actor (k + 1) r'.stop st' rest'
        exact ⟨q, List.mem_cons_of_mem _ hq, by rw [hp, e]⟩
    · obtain ⟨q, hq, hp⟩ := ih hr' (by simp only [List.length_cons] at hlt; omega)
      exact ⟨q, List.mem_cons_of_mem _ hq, hp⟩

theorem runLine_congr {env' : Env} (h : ∀ i, env.occ ⟨ao, a, sc, ln, i⟩ = env'.occ ⟨ao, a, sc, ln, i⟩) :
    runLine env ao a sc ln actor k t steps = runLine env' ao a sc ln actor k t steps := by
  induction steps generalizing k t with
  | nil => rfl
  | cons st rest ih => simp only [runLine, h k, ih]

theorem runLine_end_attained :
    ((runLine env ao a sc ln actor k t steps).1 = [] ∧ (runLine env ao a sc ln actor k t steps).2.1 = t) ∨
    ∃ r ∈ (runLine env ao a sc ln actor k t steps).1, r.stop = (runLine env ao a sc ln actor k t steps).2.1 := by
  fun_induction runLine env ao a sc ln actor k t steps with
  | case1 => exact Or.inl ⟨rfl, rfl⟩
  | case2 k t st rest o r h => exact Or.inr ⟨r, List.mem_singleton.mpr rfl, rfl⟩
  | case3 k t st rest o r h x ih =>
    rcases ih with ⟨_, h2⟩ | ⟨q, hq, he⟩
    · exact Or.inr ⟨r, List.mem_cons_self, h2.symm⟩
    · exact Or.inr ⟨q, List.mem_cons_of_mem _ hq, he⟩

end line

/-- the part of `actPositions` that belongs to the lines of scene `sc`, numbered from `ln` -/
def linesPositions (sc : Nat) (lines : List Line) (ln : Nat) : List (Nat × Nat × Nat) :=
  (lines.zipIdx ln).flatMap fun (l, ln) => (List.range l.steps.length).map fun k => (sc, ln, k)

variable (sc : Nat) in
theorem linesPositions_nil (ln : Nat) : linesPositions sc [] ln = [] := rfl

theorem linesPositions_cons (sc : Nat) (l : Line) (rest : List Line) (ln : Nat) :
    linesPositions sc (l :: rest) ln =
      (List.range l.steps.length).map (fun k => (sc, ln, k)) ++ linesPositions sc rest (ln + 1) := rfl

section scene
variable {env : Env} {ao a sc t ln : Nat} {lines : List Line}

theorem runScene_le : t ≤ (runScene env ao a sc t ln lines).2.1 := by
  fun_induction runScene env ao a sc t ln lines with
  | case1 => exact Nat.le_refl _
  | case2 ln l rest x y ih => exact Nat.le_trans ih (Nat.le_max_right _ _)

theorem runScene_mem {r : Rec} (hr : r ∈ (runScene env ao a sc t ln lines).1) :
    ∃ i l, lines[i]? = some l ∧ r ∈ (runLine env ao a sc (ln + i) l.actor 0 t l.steps).1 ∧
      (runLine env ao a sc (ln + i) l.actor 0 t l.steps).2.1 ≤ (runScene env ao a sc t ln lines).2.1 ∧
      ∀ q ∈ (runLine env ao a sc (ln + i) l.actor 0 t l.steps).1, q ∈ (runScene env ao a sc t ln lines).1 := by
  fun_induction runScene env ao a sc t ln lines with
  | case1 => cases hr
  | case2 ln l rest x y ih =>
    rcases List.mem_append.mp hr with hr | hr
    · exact ⟨0, l, rfl, hr, Nat.le_max_left _ _, fun q hq => List.mem_append_left _ hq⟩
    · obtain ⟨i, l', h1, h2, h3, h4⟩ := ih hr
      rw [Nat.add_right_comm, Nat.add_assoc] at h2 h3 h4
      exact ⟨i + 1, l', h1, h2, Nat.le_trans h3 (Nat.le_max_right _ _), fun q hq => List.mem_append_right _ (h4 q hq)⟩

theorem runScene_rec {r : Rec} (hr : r ∈ (runScene env ao a sc t ln lines).1) :
    r.pos.actOcc = ao ∧ r.pos.act = a ∧ r.pos.scene = sc ∧ ln ≤ r.pos.line ∧
      t ≤ r.start ∧ r.start ≤ r.stop ∧ r.stop ≤ (runScene env ao a sc t ln lines).2.1 := by
  obtain ⟨i, l, _, h2, h3, _⟩ := runScene_mem hr
  obtain ⟨j, t', st, _, h5, rfl, h7⟩ := runLine_mem h2
  simp only [mkRec, true_and] at h7 ⊢; omega

theorem runScene_src {r : Rec} (hr : r ∈ (runScene env ao a sc t 0 lines).1) :
    r.pos.scene = sc ∧ r.pos.actOcc = ao ∧ r.pos.act = a ∧ ∃ l, lines[r.pos.line]? = some l ∧
      r ∈ (runLine env ao a r.pos.scene r.pos.line l.actor 0 t l.steps).1 ∧
      ∀ q ∈ (runLine env ao a r.pos.scene r.pos.line l.actor 0 t l.steps).1,
        q ∈ (runScene env ao a sc t 0 lines).1 := by
  obtain ⟨i, l, h1, h2, _, h4⟩ := runScene_mem hr
  obtain ⟨_, _, _, _, _, e, _⟩ := runLine_mem h2
  have h5 : r.pos.scene = sc := by rw [e]; rfl
  have h6 : r.pos.line = 0 + i := by rw [e]; rfl
  rw [h5, h6]
  exact ⟨rfl, by rw [e]; rfl, by rw [e]; rfl, l, by rw [Nat.zero_add]; exact h1, h2, h4⟩

theorem runScene_bnd : Bnd t (runScene env ao a sc t ln lines).2.1 (runScene env ao a sc t ln lines).1 :=
  fun _ hr => (runScene_rec hr).2.2.2.2

theorem runScene_ok : (runScene env ao a sc t ln lines).2.2 = true ↔
    ∀ r ∈ (runScene env ao a sc t ln lines).1, ¬ r.bad := by
  fun_induction runScene env ao a sc t ln lines with
  | case1 => simp
  | case2 ln l rest x y ih =>
    simp only [Bool.and_eq_true, List.forall_mem_append]; exact and_congr runLine_ok ih

theorem runScene_seq : Seq (runScene env ao a sc t ln lines).1 := by
  fun_induction runScene env ao a sc t ln lines with
  | case1 => intro r hr; cases hr
  | case2 ln l rest x y ih =>
    refine Seq.append runLine_seq ih fun p hp q hq => ?_
    obtain ⟨_, _, _, _, _, rfl, _⟩ := runLine_mem hp
    have := runScene_rec hq
    simp only [Pos.before, mkRec]; omega

theorem runScene_ok_pos (hok : (runScene env ao a sc t ln lines).2.2 = true) :
    (runScene env ao a sc t ln lines).1.map (·.pos) =
      (linesPositions sc lines ln).map (fun p => (⟨ao, a, p.1, p.2.1, p.2.2⟩ : Pos)) := by
  fun_induction runScene env ao a sc t ln lines with
  | case1 => rfl
  | case2 ln l rest x y ih =>
    simp only [Bool.and_eq_true] at hok
    rw [List.map_append, ih hok.2, runLine_ok_pos hok.1, linesPositions_cons, List.map_append, List.map_map,
      List.range_eq_range']
    rfl

theorem runScene_filter : ∀ (i : Nat) (l : Line), lines[i]? = some l →
    (runScene env ao a sc t ln lines).1.filter (fun r => r.pos.line == ln + i) =
      (runLine env ao a sc (ln + i) l.actor 0 t l.steps).1 := by
  fun_induction runScene env ao a sc t ln lines with
  | case1 => intro _ _ hl; cases hl
  | case2 ln l0 rest x y ih =>
    intro i l hl
    have hx : ∀ r ∈ x.1, r.pos.line = ln := fun r hr => by
      obtain ⟨_, _, _, _, _, rfl, _⟩ := runLine_mem hr; rfl
    have hy : ∀ r ∈ y.1, ln + 1 ≤ r.pos.line := fun r hr => (runScene_rec hr).2.2.2.1
    rw [List.filter_append]
    cases i with
    | zero =>
      cases hl
      rw [List.filter_eq_self.mpr fun r hr => by simp [hx r hr],
        List.filter_eq_nil_iff.mpr fun r hr => by have := hy r hr; simp; omega, List.append_nil]; rfl
    | succ i =>
      rw [List.filter_eq_nil_iff.mpr fun r hr => by have := hx r hr; simp; omega, List.nil_append,
        ← Nat.add_assoc, Nat.add_right_comm]
      exact ih i l hl

theorem runScene_line {env' : Env} {l : Line} (hl : lines[ln]? = some l)
    (henv : ∀ k, env.occ ⟨ao, a, sc, ln, k⟩ = env'.occ ⟨ao, a, sc, ln, k⟩) :
    (runScene env ao a sc t 0 lines).1.filter (fun r => r.pos.line == ln) =
      (runLine env' ao a sc ln l.actor 0 t l.steps).1 := by
  have := runScene_filter (env := env) (ao := ao) (a := a) (sc := sc) (t := t) (ln := 0) ln l hl
  rw [Nat.zero_add] at this
  rw [this, runLine_congr henv]

theorem runScene_end_attained :
    ((runScene env ao a sc t ln lines).1 = [] ∧ (runScene env ao a sc t ln lines).2.1 = t) ∨
    ∃ r ∈ (runScene env ao a sc t ln lines).1, r.stop = (runScene env ao a sc t ln lines).2.1 := by
  fun_induction runScene env ao a sc t ln lines with
  | case1 => exact Or.inl ⟨rfl, rfl⟩
  | case2 ln l rest x y ih =>
    have hx : (x.1 = [] ∧ x.2.1 = t) ∨ ∃ r ∈ x.1, r.stop = x.2.1 := runLine_end_attained
    have hy : (y.1 = [] ∧ y.2.1 = t) ∨ ∃ r ∈ y.1, r.stop = y.2.1 := ih
    have hxl : t ≤ x.2.1 := runLine_le
    have hyl : t ≤ y.2.1 := runScene_le
    -- an empty side ends at `t` and so never exceeds the other; of two attained ends the later is the maximum
    rcases hx with ⟨g1, g2⟩ | ⟨r, hr, he⟩
    · simp only [g1, g2, List.nil_append, Nat.max_eq_right hyl]; exact hy
    · rcases hy with ⟨h1, h2⟩ | ⟨q, hq, hf⟩
      · simp only [h1, h2, List.append_nil, Nat.max_eq_left hxl]; exact Or.inr ⟨r, hr, he⟩
      · rcases Nat.le_total x.2.1 y.2.1 with hle | hle
        · exact Or.inr ⟨q, List.mem_append_right _ hq, by simp only [Nat.max_eq_right hle]; exact hf⟩
        · exact Or.inr ⟨r, List.mem_append_left _ hr, by simp only [Nat.max_eq_left hle]; exact he⟩

end scene

/-- `max t u + j` is the shape of the start `t1` of a scene in `runScenes` -/
theorem le_max_add (t u j : Nat) : t ≤ max t u + j ∧ u ≤ max t u + j := by omega

theorem getElem?_cons_sub {α : Type} {x : α} {xs : List α} {i k : Nat} (h : k + 1 ≤ i) :
    (x :: xs)[i - k]? = xs[i - (k + 1)]? := by
  obtain ⟨d, rfl⟩ := Nat.exists_eq_add_of_le h
  rw [Nat.add_sub_cancel_left, Nat.add_assoc, Nat.add_sub_cancel_left, Nat.add_comm 1 d, List.getElem?_cons_succ]

/-- `actPositions` for scenes numbered from `sc` -/
def scenesPositions (scenes : List Scene) (sc : Nat) : List (Nat × Nat × Nat) :=
  (scenes.zipIdx sc).flatMap fun (s, sc) => linesPositions sc s.lines 0

section scenes
variable {env : Env} {ao a t0 sc t : Nat} {scenes : List Scene}

theorem runScenes_le : t ≤ (runScenes env ao a t0 sc t scenes).2.1 := by
  fun_induction runScenes env ao a t0 sc t scenes with
  | case1 => exact Nat.le_refl _
  | case2 sc t s rest t1 h ih => exact Nat.le_trans (le_max_add ..).1 ih
  | case3 sc t s rest t1 h x hx => exact Nat.le_trans (le_max_add ..).1 runScene_le
  | case4 sc t s rest t1 h x hx y ih =>
    exact Nat.le_trans (le_max_add ..).1 (Nat.le_trans runScene_le ih)

theorem runScenes_bnd : Bnd t (runScenes env ao a t0 sc t scenes).2.1 (runScenes env ao a t0 sc t scenes).1 := by
  fun_induction runScenes env ao a t0 sc t scenes with
  | case1 => intro r hr; cases hr
  | case2 sc t s rest t1 h ih => exact ih.mono (le_max_add ..).1 (Nat.le_refl _)
  | case3 sc t s rest t1 h x hx => exact runScene_bnd.mono (le_max_add ..).1 (Nat.le_refl _)
  | case4 sc t s rest t1 h x hx y ih =>
    have h1 : t ≤ t1 := (le_max_add ..).1
    have h2 : t1 ≤ x.2.1 := runScene_le
    have h3 : x.2.1 ≤ y.2.1 := runScenes_le
    exact (runScene_bnd.mono h1 h3).append (ih.mono (Nat.le_trans h1 h2) (Nat.le_refl _))

variable (env ao a t0) in
theorem runScenes_src (sc t : Nat) (scenes : List Scene) :
    ∀ r ∈ (runScenes env ao a t0 sc t scenes).1, sc ≤ r.pos.scene ∧ r.pos.actOcc = ao ∧ r.pos.act = a ∧
      ∃ s l t1, scenes[r.pos.scene - sc]? = some s ∧ s.lines[r.pos.line]? = some l ∧
        t0 + s.waitUntil ≤ t1 ∧
        r ∈ (runLine env ao a r.pos.scene r.pos.line l.actor 0 t1 l.steps).1 ∧
        ∀ q ∈ (runLine env ao a r.pos.scene r.pos.line l.actor 0 t1 l.steps).1,
          q ∈ (runScenes env ao a t0 sc t scenes).1 := by
  fun_induction runScenes env ao a t0 sc t scenes with
  | case1 => intro r hr; cases hr
  | case2 sc t s rest t1 h ih =>
    intro r hr
    obtain ⟨h1, h2, h3, s', l, t', h4, h5⟩ := ih r hr
    exact ⟨by omega, h2, h3, s', l, t', by rw [getElem?_cons_sub h1]; exact h4, h5⟩
  | case3 sc t s rest t1 h x hx =>
    intro r hr
    obtain ⟨h3, h1, h2, l, h4, h5, h6⟩ := runScene_src hr
    exact ⟨Nat.le_of_eq h3.symm, h1, h2, s, l, t1, by rw [h3, Nat.sub_self]; rfl, h4, (le_max_add ..).2, h5, h6⟩
  | case4 sc t s rest t1 h x hx y ih =>
    intro r hr
    rcases List.mem_append.mp hr with hr | hr
    · obtain ⟨h3, h1, h2, l, h4, h5, h6⟩ := runScene_src hr
      exact ⟨Nat.le_of_eq h3.symm, h1, h2, s, l, t1, by rw [h3, Nat.sub_self]; rfl, h4, (le_max_add ..).2, h5,
        fun q hq => List.mem_append_left _ (h6 q hq)⟩
    · obtain ⟨h1, h2, h3, s', l, t', h4, h5, h6, h7, h8⟩ := ih r hr
      exact ⟨by omega, h2, h3, s', l, t', by rw [getElem?_cons_sub h1]; exact h4, h5, h6, h7,
        fun q hq => List.mem_append_right _ (h8 q hq)⟩

theorem runScenes_ids {r : Rec} (hr : r ∈ (runScenes env ao a t0 sc t scenes).1) :
    r.pos.actOcc = ao ∧ r.pos.act = a ∧ sc ≤ r.pos.scene :=
  have h := runScenes_src _ _ _ _ _ _ _ r hr
  ⟨h.2.1, h.2.2.1, h.1⟩

theorem runScenes_ok : (runScenes env ao a t0 sc t scenes).2.2 = true ↔
    ∀ r ∈ (runScenes env ao a t0 sc t scenes).1, ¬ r.bad := by
  fun_induction runScenes env ao a t0 sc t scenes with
  | case1 => simp
  | case2 sc t s rest t1 h ih => exact ih
  | case3 sc t s rest t1 h x hx =>
    exact ⟨(nomatch ·), fun hn => absurd (runScene_ok.mpr hn) (by simpa using hx)⟩
  | case4 sc t s rest t1 h x hx y ih =>
    exact ih.trans ⟨fun hy => List.forall_mem_append.mpr ⟨runScene_ok.mp (by simpa using hx), hy⟩,
      fun hxy => (List.forall_mem_append.mp hxy).2⟩

theorem runScenes_seq : Seq (runScenes env ao a t0 sc t scenes).1 := by
  fun_induction runScenes env ao a t0 sc t scenes with
  | case1 => intro r hr; cases hr
  | case2 sc t s rest t1 h ih => exact ih
  | case3 sc t s rest t1 h x hx => exact runScene_seq
  | case4 sc t s rest t1 h x hx y ih =>
    refine Seq.append runScene_seq ih fun p hp q hq => ?_
    have h1 := runScene_rec hp
    have h2 := runScenes_ids hq
    have h3 : p.stop ≤ x.2.1 := h1.2.2.2.2.2.2
    have h4 : x.2.1 ≤ q.start := (runScenes_bnd q hq).1
    exact ⟨by simp only [Pos.before]; omega, fun _ => ⟨runScene_ok.mp (by simpa using hx) p hp, Nat.le_trans h3 h4⟩⟩

theorem runScenes_ok_pos (hok : (runScenes env ao a t0 sc t scenes).2.2 = true) :
    (runScenes env ao a t0 sc t scenes).1.map (·.pos) =
      (scenesPositions scenes sc).map (fun p => (⟨ao, a, p.1, p.2.1, p.2.2⟩ : Pos)) := by
  fun_induction runScenes env ao a t0 sc t scenes with
  | case1 => rfl
  | case2 sc t s rest t1 h ih =>
    rw [ih hok]; simp only [scenesPositions, List.zipIdx_cons, List.flatMap_cons, List.isEmpty_iff.mp h]; rfl
  | case3 => cases hok
  | case4 sc t s rest t1 h x hx y ih =>
    rw [List.map_append, ih hok, runScene_ok_pos (by simpa using hx)]
    simp only [scenesPositions, List.zipIdx_cons, List.flatMap_cons, List.map_append]

end scenes

/-- one act occurrence: the scenes of act `j`, the act starting at `t + actJitter` -/
def actRun (env : Env) (ao j t : Nat) (act : Act) : List Rec × Nat × Bool :=
  runScenes env ao j (t + env.actJitter ao) 0 (t + env.actJitter ao) act

/-- the last act of a play with a `repeat` clause has just ended -/
def atEnd (play : Play) (rp : Repeat) (j : Nat) : Bool := rp.fromAct > 0 && j + 1 == play.length

/-- `stopCount || stopTime` of `loop`: the play ends here instead of jumping back to `fromAct` -/
def stops (env : Env) (rp : Repeat) (nrep : Nat) : Bool :=
  (rp.count > 0 && (nrep + 1 : Int) ≥ rp.count) || (rp.hasTimeout && env.timedOut nrep)

theorem atEnd_true {play : Play} {rp : Repeat} {j : Nat} (h : atEnd play rp j = true) :
    0 < rp.fromAct ∧ j + 1 = play.length := by
  simpa [atEnd] using h

theorem atEnd_false {play : Play} {rp : Repeat} {j : Nat} (h : atEnd play rp j = false) :
    rp.fromAct = 0 ∨ j + 1 ≠ play.length := by
  simp only [atEnd, Bool.and_eq_false_iff, decide_eq_false_iff_not, beq_eq_false_iff_ne] at h
  omega

theorem stops_of_count {env : Env} {rp : Repeat} {n : Nat} (h : 0 < rp.count ∧ rp.count ≤ (n : Int) + 1) :
    stops env rp n = true := by
  simp [stops, h.1, h.2]

theorem count_of_stops {env : Env} {rp : Repeat} {n : Nat} (hto : rp.hasTimeout = false)
    (h : stops env rp n = true) : 0 < rp.count ∧ rp.count ≤ (n : Int) + 1 := by
  simpa [stops, hto] using h

theorem le_count_of_not_stops {env : Env} {rp : Repeat} {m : Nat} (h : ∀ i < m, stops env rp i = false)
    (hc : 1 ≤ rp.count) : (m : Int) + 1 ≤ rp.count := by
  cases m with
  | zero => exact hc
  | succ m => have := mt stops_of_count (Bool.eq_false_iff.mp (h m (Nat.lt_succ_self m))); omega

/-- the graph of `loop` together with `actOccs`: one constructor per way through the loop body -/
inductive LoopStep (env : Env) (play : Play) (rp : Repeat) :
    Nat → Nat → Nat → Nat → Nat → List Rec × Bool × Bool → List (Nat × Nat × Nat) → Prop
  | zero (j ao nrep t : Nat) : LoopStep env play rp 0 j ao nrep t ([], true, false) []
  | none (fuel j ao nrep t : Nat) : play[j]? = none →
      LoopStep env play rp (fuel + 1) j ao nrep t ([], true, true) []
  | fail (fuel j ao nrep t : Nat) (act : Act) : play[j]? = some act →
      (actRun env ao j t act).2.2 = false →
      LoopStep env play rp (fuel + 1) j ao nrep t ((actRun env ao j t act).1, false, true)
        [(ao, j, t + env.actJitter ao)]
  | stop (fuel j ao nrep t : Nat) (act : Act) : play[j]? = some act →
      (actRun env ao j t act).2.2 = true → atEnd play rp j = true → stops env rp nrep = true →
      LoopStep env play rp (fuel + 1) j ao nrep t ((actRun env ao j t act).1, true, true)
        [(ao, j, t + env.actJitter ao)]
  | jump (fuel j ao nrep t : Nat) (act : Act) (res : List Rec × Bool × Bool) (occs : List (Nat × Nat × Nat)) :
      play[j]? = some act →
      (actRun env ao j t act).2.2 = true → atEnd play rp j = true → stops env rp nrep = false →
      LoopStep env play rp fuel (rp.fromAct - 1) (ao + 1) (nrep + 1) (actRun env ao j t act).2.1 res occs →
      LoopStep env play rp (fuel + 1) j ao nrep t ((actRun env ao j t act).1 ++ res.1, res.2.1, res.2.2)
        ((ao, j, t + env.actJitter ao) :: occs)
  | next (fuel j ao nrep t : Nat) (act : Act) (res : List Rec × Bool × Bool) (occs : List (Nat × Nat × Nat)) :
      play[j]? = some act →
      (actRun env ao j t act).2.2 = true → atEnd play rp j = false →
      LoopStep env play rp fuel (j + 1) (ao + 1) nrep (actRun env ao j t act).2.1 res occs →
      LoopStep env play rp (fuel + 1) j ao nrep t ((actRun env ao j t act).1 ++ res.1, res.2.1, res.2.2)
        ((ao, j, t + env.actJitter ao) :: occs)

theorem loopStep (env : Env) (play : Play) (rp : Repeat) (fuel j ao nrep t : Nat) :
    LoopStep env play rp fuel j ao nrep t (loop env play rp fuel j ao nrep t)
      (actOccs env play rp fuel j ao nrep t) := by
  fun_induction loop env play rp fuel j ao nrep t with
  | case1 j ao nrep t => exact .zero j ao nrep t
  | case2 fuel j ao nrep t hj => simp only [actOccs, hj]; exact .none fuel j ao nrep t hj
  | case3 fuel j ao nrep t act hj t0 x hx =>
    have e : actOccs env play rp (fuel + 1) j ao nrep t = [(ao, j, t0)] := by
      simp only [actOccs, hj]; exact if_pos hx
    rw [e]; exact .fail fuel j ao nrep t act hj (show x.2.2 = false by simpa using hx)
  | case4 fuel j ao nrep t act hj t0 x hx he sc st hs =>
    have e : actOccs env play rp (fuel + 1) j ao nrep t = [(ao, j, t0)] := by
      simp only [actOccs, hj]; exact (if_neg hx).trans ((if_pos he).trans (if_pos hs))
    rw [e]; exact .stop fuel j ao nrep t act hj (show x.2.2 = true by simpa using hx) he hs
  | case5 fuel j ao nrep t act hj t0 x hx he sc st hs y ih =>
    have e : actOccs env play rp (fuel + 1) j ao nrep t =
        (ao, j, t0) :: actOccs env play rp fuel (rp.fromAct - 1) (ao + 1) (nrep + 1) x.2.1 := by
      simp only [actOccs, hj]; exact (if_neg hx).trans ((if_pos he).trans (if_neg hs))
    rw [e]
    exact .jump fuel j ao nrep t act _ _ hj (show x.2.2 = true by simpa using hx) he
      ((Bool.not_eq_true _).mp hs) ih
  | case6 fuel j ao nrep t act hj t0 x hx he y ih =>
    have e : actOccs env play rp (fuel + 1) j ao nrep t =
        (ao, j, t0) :: actOccs env play rp fuel (j + 1) (ao + 1) nrep x.2.1 := by
      simp only [actOccs, hj]; exact (if_neg hx).trans (if_neg he)
    rw [e]
    exact .next fuel j ao nrep t act _ _ hj (show x.2.2 = true by simpa using hx) ((Bool.not_eq_true _).mp he) ih

/-- the performance as a chain of act runs: `LoopStep` without the repeat bookkeeping.  Each act starts when
the previous one has ended, and only if that one succeeded; all facts about records are proved on this chain -/
inductive Acts (env : Env) (play : Play) : Nat → Nat → List Rec → Bool → List (Nat × Nat × Nat) → Prop
  | done (ao t : Nat) : Acts env play ao t [] true []
  | last (ao j t : Nat) (act : Act) : play[j]? = some act →
      Acts env play ao t (actRun env ao j t act).1 (actRun env ao j t act).2.2 [(ao, j, t + env.actJitter ao)]
  | more (ao j t : Nat) (act : Act) (tr : List Rec) (ok : Bool) (occs : List (Nat × Nat × Nat)) :
      play[j]? = some act → (actRun env ao j t act).2.2 = true →
      Acts env play (ao + 1) (actRun env ao j t act).2.1 tr ok occs →
      Acts env play ao t ((actRun env ao j t act).1 ++ tr) ok ((ao, j, t + env.actJitter ao) :: occs)

/-- `r` stems from a whole run (`runLine`) of the script line it names, started at a time `t1` at least `waitUntil`
after the recorded start `t0` of its act occurrence; all the records of that run are in `tr` -/
def Src (env : Env) (play : Play) (occs : List (Nat × Nat × Nat)) (tr : List Rec) (r : Rec) : Prop :=
  ∃ act s l t0 t1, play[r.pos.act]? = some act ∧ act[r.pos.scene]? = some s ∧
    s.lines[r.pos.line]? = some l ∧ (r.pos.actOcc, r.pos.act, t0) ∈ occs ∧ t0 + s.waitUntil ≤ t1 ∧
    r ∈ (runLine env r.pos.actOcc r.pos.act r.pos.scene r.pos.line l.actor 0 t1 l.steps).1 ∧
    ∀ q ∈ (runLine env r.pos.actOcc r.pos.act r.pos.scene r.pos.line l.actor 0 t1 l.steps).1, q ∈ tr

theorem Src.mono {env : Env} {play : Play} {occs occs' : List (Nat × Nat × Nat)} {tr tr' : List Rec}
    {r : Rec} (h : Src env play occs tr r) (ho : ∀ o ∈ occs, o ∈ occs') (ht : ∀ q ∈ tr, q ∈ tr') :
    Src env play occs' tr' r := by
  obtain ⟨act, s, l, t0, t1, h1, h2, h3, h4, h5, h6, h7⟩ := h
  exact ⟨act, s, l, t0, t1, h1, h2, h3, ho _ h4, h5, h6, fun q hq => ht q (h7 q hq)⟩

/-- a record describes a step of the script and reports faithfully what the command experienced -/
structure WellFormed (env : Env) (play : Play) (r : Rec) : Prop where
  order : r.start ≤ r.stop
  pos : ∃ act s l st, play[r.pos.act]? = some act ∧ act[r.pos.scene]? = some s ∧
    s.lines[r.pos.line]? = some l ∧ l.steps[r.pos.step]? = some st ∧
    r.actor = l.actor ∧ r.action = st.action ∧ r.failOk = st.failOk
  dur : r.stop = r.start + (env.occ r.pos).dur
  status : r.ok = (env.occ r.pos).ok

theorem Src.wellFormed {env : Env} {play : Play} {occs : List (Nat × Nat × Nat)} {tr : List Rec} {r : Rec}
    (h : Src env play occs tr r) : WellFormed env play r := by
  obtain ⟨act, s, l, t0, t1, h1, h2, h3, _, _, h6, _⟩ := h
  obtain ⟨i, t', st, hs, _, e, _⟩ := runLine_mem h6
  have hi : r.pos.step = 0 + i := by rw [e]; rfl
  rw [Nat.zero_add] at hi
  exact ⟨by rw [e]; simp only [mkRec]; omega, ⟨act, s, l, st, h1, h2, h3, hi ▸ hs, by rw [e]; rfl, by rw [e]; rfl,
    by rw [e]; rfl⟩, by rw [e]; rfl, by rw [e]; rfl⟩

theorem startIn_cons (o : Nat × Nat × Nat) (occs : List (Nat × Nat × Nat)) (a : Nat) :
    startIn (o :: occs) a = if o.1 = a then o.2.2 else startIn occs a := by
  by_cases h : o.1 = a
  · simp [startIn, h]
  · have : (o.1 == a) = false := by simpa using h
    simp [startIn, this, h]

section acts
variable {env : Env} {play : Play} {ao j t : Nat} {act : Act} {tr : List Rec} {ok : Bool}
  {occs : List (Nat × Nat × Nat)}

theorem actRun_le (env : Env) (ao j t : Nat) (act : Act) :
    t + env.actJitter ao ≤ (actRun env ao j t act).2.1 := runScenes_le

theorem actRun_rec {r : Rec} (hr : r ∈ (actRun env ao j t act).1) :
    r.pos.actOcc = ao ∧ r.pos.act = j ∧
      t + env.actJitter ao ≤ r.start ∧ r.start ≤ r.stop ∧ r.stop ≤ (actRun env ao j t act).2.1 :=
  ⟨(runScenes_ids hr).1, (runScenes_ids hr).2.1, runScenes_bnd r hr⟩

theorem actRun_src (hj : play[j]? = some act) {r : Rec} (hr : r ∈ (actRun env ao j t act).1) :
    Src env play [(ao, j, t + env.actJitter ao)] (actRun env ao j t act).1 r := by
  obtain ⟨_, hao, hact, s, l, t1, h2, h3, h4, h5, h6⟩ := runScenes_src _ _ _ _ _ _ _ r hr
  subst hao hact
  exact ⟨act, s, l, _, t1, hj, h2, h3, List.mem_singleton.mpr rfl, h4, h5, h6⟩

theorem actRun_ok_pos (hok : (actRun env ao j t act).2.2 = true) :
    (actRun env ao j t act).1.map (·.pos) =
      (actPositions act).map (fun p => (⟨ao, j, p.1, p.2.1, p.2.2⟩ : Pos)) :=
  runScenes_ok_pos hok  -- `scenesPositions act 0` unfolds to `actPositions act`

theorem Acts.bnd (h : Acts env play ao t tr ok occs) : ∀ r ∈ tr, ao ≤ r.pos.actOcc ∧ t ≤ r.start := by
  induction h with
  | done => exact fun _ hr => nomatch hr
  | last ao j t act => intro r hr; have := actRun_rec hr; omega
  | more ao j t act tr ok occs _ _ _ ih =>
    intro r hr
    rcases List.mem_append.mp hr with hr | hr
    · have := actRun_rec hr; omega
    · have := ih r hr; have := actRun_le env ao j t act; omega

theorem Acts.occs_bnd (h : Acts env play ao t tr ok occs) :
    ∀ o ∈ occs, ao ≤ o.1 ∧ t ≤ o.2.2 ∧ startIn occs o.1 = o.2.2 := by
  induction h with
  | done => exact fun _ hr => nomatch hr
  | last ao j t act =>
    intro o ho; cases List.mem_singleton.mp ho
    exact ⟨Nat.le_refl _, Nat.le_add_right _ _, by rw [startIn_cons, if_pos rfl]⟩
  | more ao j t act tr ok occs _ _ _ ih =>
    intro o ho
    rcases List.mem_cons.mp ho with rfl | ho
    · exact ⟨Nat.le_refl _, Nat.le_add_right _ _, by rw [startIn_cons, if_pos rfl]⟩
    · obtain ⟨h1, h2, h3⟩ := ih o ho
      have := actRun_le env ao j t act
      exact ⟨by omega, by omega, by rw [startIn_cons, if_neg (by simp only []; omega)]; exact h3⟩

theorem Acts.occs_mono (h : Acts env play ao t tr ok occs) :
    (∀ r ∈ tr, ∀ o ∈ occs, r.pos.actOcc < o.1 → r.stop ≤ o.2.2) ∧
    (∀ o ∈ occs, ∀ o' ∈ occs, o.1 < o'.1 → o.2.2 ≤ o'.2.2) := by
  induction h with
  | done => exact ⟨(fun _ hr => nomatch hr), fun _ ho => nomatch ho⟩
  | last ao j t act =>
    refine ⟨fun r hr o ho hlt => ?_, fun o ho o' ho' hlt => ?_⟩
    · cases List.mem_singleton.mp ho
      have := actRun_rec hr; simp only [] at hlt; omega
    · cases List.mem_singleton.mp ho; cases List.mem_singleton.mp ho'; omega
  | more ao j t act tr ok occs _ _ hrec ih =>
    have hle := actRun_le env ao j t act
    refine ⟨fun r hr o ho hlt => ?_, fun o ho o' ho' hlt => ?_⟩
    · rcases List.mem_append.mp hr with hr | hr <;> rcases List.mem_cons.mp ho with rfl | ho
      · have := actRun_rec hr; simp only [] at hlt; omega
      · have := actRun_rec hr; have := hrec.occs_bnd o ho; omega
      · have := hrec.bnd r hr; simp only [] at hlt; omega
      · exact ih.1 r hr o ho hlt
    · rcases List.mem_cons.mp ho with rfl | ho <;> rcases List.mem_cons.mp ho' with rfl | ho'
      · omega
      · have := hrec.occs_bnd o' ho'; simp only []; omega
      · have := hrec.occs_bnd o ho; simp only [] at hlt; omega
      · exact ih.2 o ho o' ho' hlt

theorem Acts.src (h : Acts env play ao t tr ok occs) : ∀ r ∈ tr, Src env play occs tr r := by
  induction h with
  | done => exact fun _ hr => nomatch hr
  | last ao j t act hj => exact fun r hr => actRun_src hj hr
  | more ao j t act tr ok occs hj _ _ ih =>
    intro r hr
    rcases List.mem_append.mp hr with hr | hr
    · exact (actRun_src hj hr).mono (fun o ho => List.mem_singleton.mp ho ▸ List.mem_cons_self)
        (fun q hq => List.mem_append_left _ hq)
    · exact (ih r hr).mono (fun o ho => List.mem_cons_of_mem _ ho) (fun q hq => List.mem_append_right _ hq)

theorem Acts.ok_iff (h : Acts env play ao t tr ok occs) : ok = true ↔ ∀ r ∈ tr, ¬ r.bad := by
  induction h with
  | done => exact ⟨(fun _ _ hr => nomatch hr), fun _ => rfl⟩
  | last ao j t act => exact runScenes_ok
  | more ao j t act tr ok occs _ hok _ ih =>
    exact ih.trans ⟨fun hy => List.forall_mem_append.mpr ⟨runScenes_ok.mp hok, hy⟩,
      fun hxy => (List.forall_mem_append.mp hxy).2⟩

theorem Acts.seq (h : Acts env play ao t tr ok occs) : Seq tr := by
  induction h with
  | done => exact fun _ hr => nomatch hr
  | last ao j t act => exact runScenes_seq
  | more ao j t act tr ok occs _ hok hrec ih =>
    refine Seq.append runScenes_seq ih fun p hp q hq => ?_
    have h1 := actRun_rec hp
    have h2 := hrec.bnd q hq
    exact ⟨by simp only [Pos.before]; omega, fun _ => ⟨runScenes_ok.mp hok p hp, by omega⟩⟩

theorem Acts.ok_pos (h : Acts env play ao t tr ok occs) :
    ok = true → tr.map (·.pos) = expectedFrom play (occs.map (·.2.1)) ao := by
  induction h with
  | done => intro _; rfl
  | last ao j t act hj =>
    intro hok
    simp only [List.map_cons, List.map_nil, expectedFrom, List.append_nil, hj, Option.getD_some]
    exact actRun_ok_pos hok
  | more ao j t act tr ok occs hj hok _ ih =>
    intro h
    simp only [List.map_append, List.map_cons, expectedFrom, ih h, hj, Option.getD_some]
    exact congrArg (· ++ _) (actRun_ok_pos hok)

end acts

/-- the acts played again after one jump back to `fromAct`: the list that `expectedActs` replicates -/
def repActs (play : Play) (rp : Repeat) : List Nat :=
  List.range' (rp.fromAct - 1) (play.length - (rp.fromAct - 1))

section loop
variable {env : Env} {play : Play} {rp : Repeat}
variable {fuel j ao nrep t : Nat} {res : List Rec × Bool × Bool} {occs : List (Nat × Nat × Nat)}

theorem LoopStep.acts (h : LoopStep env play rp fuel j ao nrep t res occs) :
    Acts env play ao t res.1 res.2.1 occs := by
  induction h with
  | zero j ao nrep t => exact .done ao t
  | none fuel j ao nrep t => exact .done ao t
  | fail fuel j ao nrep t act hj hf => exact hf ▸ .last ao j t act hj
  | stop fuel j ao nrep t act hj hok => exact hok ▸ .last ao j t act hj
  | jump fuel j ao nrep t act res occs hj hok _ _ _ ih => exact .more ao j t act _ _ _ hj hok ih
  | next fuel j ao nrep t act res occs hj hok _ _ ih => exact .more ao j t act _ _ _ hj hok ih

theorem LoopStep.failed (h : LoopStep env play rp fuel j ao nrep t res occs) :
    res.2.1 = false → ∃ r ∈ res.1, r.bad := fun hf =>
  Classical.byContradiction fun hn =>
    Bool.eq_false_iff.mp hf (h.acts.ok_iff.mpr fun r hr hb => hn ⟨r, hr, hb⟩)

theorem some_lt {act : Act} (hj : play[j]? = some act) : j < play.length :=
  (List.getElem?_eq_some_iff.mp hj).1

theorem range'_to_end {j n : Nat} (h : j < n) :
    List.range' j (n - j) = j :: List.range' (j + 1) (n - (j + 1)) := by
  obtain ⟨k, rfl⟩ := Nat.exists_eq_add_of_lt h
  rw [Nat.add_assoc, Nat.add_sub_cancel_left, Nat.add_sub_add_left, Nat.add_sub_cancel]; rfl

/-- `m` = the number of times `stops` said no before it said yes (the last conjunct: it did say yes, unless the
loop left the play through a repeat point outside it) -/
theorem LoopStep.passes (h : LoopStep env play rp fuel j ao nrep t res occs) :
    res.2.1 = true → res.2.2 = true →
    ∃ m, occs.map (·.2.1) = List.range' j (play.length - j) ++ (List.replicate m (repActs play rp)).flatten ∧
      (rp.fromAct = 0 → m = 0) ∧ (∀ i < m, stops env rp (nrep + i) = false) ∧
      (0 < rp.fromAct → rp.fromAct ≤ play.length → j < play.length → stops env rp (nrep + m) = true) := by
  induction h with
  | zero => intro _ h; cases h
  | none fuel j ao nrep t hj =>
    intro _ _
    have hle : play.length ≤ j := List.getElem?_eq_none_iff.mp hj
    exact ⟨0, by rw [Nat.sub_eq_zero_of_le hle]; rfl, fun _ => rfl, (fun _ h => nomatch h),
      fun _ _ h => absurd h (Nat.not_lt.mpr hle)⟩
  | fail => intro h; cases h
  | stop fuel j ao nrep t act hj _ he hs =>
    intro _ _
    refine ⟨0, ?_, fun _ => rfl, (fun _ h => nomatch h), fun _ _ _ => hs⟩
    rw [range'_to_end (some_lt hj), (atEnd_true he).2, Nat.sub_self]; rfl
  | jump fuel j ao nrep t act res occs hj _ he hs _ ih =>
    intro h1 h2
    obtain ⟨m, hm, _, hlt, hst⟩ := ih h1 h2
    have hae := atEnd_true he
    refine ⟨m + 1, ?_, fun h0 => absurd h0 (Nat.ne_of_gt hae.1), fun i hi => ?_, fun h3 h4 _ => ?_⟩
    · rw [List.map_cons, hm, range'_to_end (some_lt hj), hae.2, Nat.sub_self]; rfl
    · cases i with
      | zero => exact hs
      | succ i => rw [← Nat.add_assoc, Nat.add_right_comm]; exact hlt i (Nat.lt_of_succ_lt_succ hi)
    · rw [← Nat.add_assoc, Nat.add_right_comm]; exact hst h3 h4 (by omega)
  | next fuel j ao nrep t act res occs hj _ he _ ih =>
    intro h1 h2
    obtain ⟨m, hm, h0, hlt, hst⟩ := ih h1 h2
    have hlt' := some_lt hj
    refine ⟨m, ?_, h0, hlt, fun h3 h4 _ => hst h3 h4 ?_⟩
    · rw [List.map_cons, hm, range'_to_end hlt']; rfl
    · have := atEnd_false he; omega

/-- fuel that suffices: one per act up to the end of the play, and at most `c` for each of the `m` jumps back that
remain until `stops` says yes -/
theorem LoopStep.finishes (h : LoopStep env play rp fuel j ao nrep t res occs) {c : Nat}
    (hc : play.length - (rp.fromAct - 1) ≤ c) :
    ∀ m, stops env rp (nrep + m) = true → (play.length - j) + m * c + 1 ≤ fuel → res.2.2 = true := by
  induction h with
  | zero => intro _ _ h; cases h
  | none => intro _ _ _; rfl
  | fail => intro _ _ _; rfl
  | stop => intro _ _ _; rfl
  | jump fuel j ao nrep t act res occs hj _ he hs _ ih =>
    intro m hm hf
    cases m with
    | zero => rw [Nat.add_zero, hs] at hm; cases hm
    | succ m =>
      refine ih m (by rw [Nat.add_right_comm, Nat.add_assoc]; exact hm) ?_
      have hae := (atEnd_true he).2
      rw [Nat.succ_mul] at hf
      generalize m * c = P at hf ⊢
      generalize play.length - (rp.fromAct - 1) = R at hc ⊢
      omega
  | next fuel j ao nrep t act res occs hj _ he _ ih =>
    intro m hm hf
    refine ih m hm ?_
    have hlt := some_lt hj
    generalize m * c = P at hf ⊢
    omega

end loop

theorem expectedActs_succ {play : Play} {rp : Repeat} {m : Nat} (h0 : rp.fromAct = 0 → m = 0) :
    expectedActs play rp (m + 1) = List.range' 0 play.length ++ (List.replicate m (repActs play rp)).flatten := by
  simp only [expectedActs, Nat.add_sub_cancel, repActs]
  split
  · rfl
  · rw [h0 (by omega)]; rfl

theorem perform_step (env : Env) (play : Play) (rp : Repeat) (fuel : Nat) :
    LoopStep env play rp fuel 0 0 0 0 (perform env play rp fuel) (performOccs env play rp fuel) :=
  loopStep env play rp fuel 0 0 0 0

theorem perform_acts (env : Env) (play : Play) (rp : Repeat) (fuel : Nat) :
    Acts env play 0 0 (perform env play rp fuel).1 (perform env play rp fuel).2.1 (performOccs env play rp fuel) :=
  (perform_step env play rp fuel).acts

theorem actStartOf_eq {env : Env} {play : Play} {rp : Repeat} {fuel : Nat} {o : Nat × Nat × Nat}
    (ho : o ∈ performOccs env play rp fuel) : actStartOf env play rp fuel o.1 = o.2.2 :=
  ((perform_acts env play rp fuel).occs_bnd o ho).2.2

/-- a play that ends with status 0 ran in `m + 1` passes, `m` the number of times `stops` said no before it said yes:
the `exit0_*` theorems of C05 each determine `m` -/
theorem perform_exit0 {env : Env} {play : Play} {rp : Repeat} {fuel : Nat} {tr : List Rec}
    (h : perform env play rp fuel = (tr, true, true)) :
    ∃ m, tr.map (·.pos) = expectedTrace play rp (m + 1) ∧ (∀ i < m, stops env rp i = false) ∧
      (0 < rp.fromAct → rp.fromAct ≤ play.length → stops env rp m = true) := by
  have hs := perform_step env play rp fuel
  rw [h] at hs
  obtain ⟨m, hm, h0, hlt, hst⟩ := hs.passes rfl rfl
  refine ⟨m, ?_, fun i hi => Nat.zero_add i ▸ hlt i hi, fun h1 h2 => Nat.zero_add m ▸ hst h1 h2 (by omega)⟩
  rw [hs.acts.ok_pos rfl, hm, Nat.sub_zero, ← expectedActs_succ h0]; rfl

theorem actPositions_mem_iff (act : Act) (sc ln k : Nat) :
    (sc, ln, k) ∈ actPositions act ↔
      ∃ s l, act[sc]? = some s ∧ s.lines[ln]? = some l ∧ k < l.steps.length := by
  simp only [actPositions, List.mem_flatMap, List.mem_map, List.mem_range, Prod.exists,
    List.mem_zipIdx_iff_getElem?, Prod.mk.injEq]
  constructor
  · rintro ⟨s, _, h1, l, _, h2, _, h3, rfl, rfl, rfl⟩; exact ⟨s, l, h1, h2, h3⟩
  · rintro ⟨s, l, h1, h2, h3⟩; exact ⟨s, sc, h1, l, ln, h2, k, h3, rfl, rfl, rfl⟩

theorem nodup_flatMap_zipIdx {α β : Type} (f : α × Nat → List β) (key : β → Nat)
    (hk : ∀ p, ∀ y ∈ f p, key y = p.2) (hn : ∀ p, (f p).Nodup) (l : List α) (n : Nat) :
    ((l.zipIdx n).flatMap f).Nodup := by
  induction l generalizing n with
  | nil => exact List.nodup_nil
  | cons x l ih =>
    rw [List.zipIdx_cons, List.flatMap_cons, List.nodup_append]
    refine ⟨hn _, ih _, fun y hy z hz e => ?_⟩
    obtain ⟨p, hp, hz⟩ := List.mem_flatMap.mp hz
    have := hk _ y hy; have := hk _ z hz; have := (List.mem_zipIdx hp).1
    rw [e] at *; omega

theorem actPositions_nodup (act : Act) : (actPositions act).Nodup :=
  nodup_flatMap_zipIdx _ (·.1) (fun p y hy => by
      obtain ⟨_, _, hy⟩ := List.mem_flatMap.mp hy
      obtain ⟨_, _, rfl⟩ := List.mem_map.mp hy; rfl)
    (fun p => nodup_flatMap_zipIdx _ (·.2.1) (fun q y hy => by obtain ⟨_, _, rfl⟩ := List.mem_map.mp hy; rfl)
      (fun q => List.Pairwise.map _ (fun a b hab h => hab (by simpa using h)) List.nodup_range) _ _) act 0

theorem count_expectedActs {play : Play} {rp : Repeat} {passes j : Nat} (hj : j < play.length)
    (hp : 1 ≤ passes) : (expectedActs play rp passes).count j = actMultiplicity play rp passes j := by
  simp only [expectedActs, actMultiplicity, List.count_append, List.count_range_1', Nat.zero_le, true_and,
    Nat.zero_add, hj, if_true, Bool.and_eq_true, decide_eq_true_eq]
  by_cases hfa : rp.fromAct > 0
  · rw [if_pos hfa, List.count_flatten, List.map_replicate, List.sum_replicate_nat, List.count_range_1']
    by_cases h2 : j + 1 ≥ rp.fromAct
    · rw [if_pos (by omega), if_pos ⟨hfa, h2⟩, Nat.mul_one]; omega
    · rw [if_neg (by omega), if_neg (fun h => h2 h.2), Nat.mul_zero]
  · rw [if_neg hfa, if_neg (fun h => hfa h.1)]; rfl

/-- a repeat point beyond the last act (no compiled play has one) repeats nothing -/
theorem expectedActs_beyond {play : Play} {rp : Repeat} (h : play.length < rp.fromAct) (p q : Nat) :
    expectedActs play rp p = expectedActs play rp q := by
  simp only [expectedActs, show play.length - (rp.fromAct - 1) = 0 by omega, List.range'_zero,
    List.flatten_replicate_nil]

/-- the position test used in the multiplicity statements -/
def posIs (j sc ln k : Nat) (p : Pos) : Bool := p.act == j && p.scene == sc && p.line == ln && p.step == k

theorem countP_posIs (ao j' j sc ln k : Nat) (L : List (Nat × Nat × Nat)) :
    (L.map fun p => (⟨ao, j', p.1, p.2.1, p.2.2⟩ : Pos)).countP (posIs j sc ln k) =
      if j' = j then L.count (sc, ln, k) else 0 := by
  rw [List.countP_map]
  split
  · exact List.countP_congr fun x _ => by simp [posIs, Prod.ext_iff, and_assoc, *]
  · exact List.countP_eq_zero.mpr fun x _ => by simp [posIs, *]

theorem countP_expectedFrom (play : Play) (acts : List Nat) (ao j sc ln k : Nat) :
    (expectedFrom play acts ao).countP (posIs j sc ln k) =
      acts.count j * (actPositions (play[j]?.getD [])).count (sc, ln, k) := by
  induction acts generalizing ao with
  | nil => simp [expectedFrom]
  | cons j' rest ih =>
    rw [expectedFrom, List.countP_append, countP_posIs, ih, List.count_cons]
    by_cases hjj : j' = j
    · rw [if_pos hjj, hjj, beq_self_eq_true, if_pos rfl, Nat.add_mul, Nat.one_mul, Nat.add_comm]
    · rw [if_neg hjj, if_neg (by simpa using hjj), Nat.zero_add, Nat.add_zero]

/-! ## A small concrete performance used by the non-vacuity examples

Two acts; act 1 has a scene with two concurrent lines (`a`: x, y? — `b`: z), a second scene 50
after the act's start whose tolerated action `y?` fails, and a mood-only scene at 100; act 2 has
one action and a mood-only scene at 30, and is repeated (`repeat 2 times` from act 2).  Commands of line `ln`
take `10 + ln`;
step `k` of a line is delayed by `k`; each scene by 1, each act by 2. -/
namespace Ex

def env : Env :=
  ⟨fun p => ⟨p.step, 10 + p.line, !(p.scene == 1 && p.line == 0 && p.step == 1)⟩, fun _ _ => 1, fun _ => 2,
    fun _ => false⟩

def play : Play :=
  [[⟨0, [⟨"a", [⟨"x", false⟩, ⟨"y", true⟩]⟩, ⟨"b", [⟨"z", false⟩]⟩]⟩, ⟨50, [⟨"a", [⟨"x", false⟩, ⟨"y", true⟩]⟩]⟩,
    ⟨100, []⟩],
   [⟨0, [⟨"b", [⟨"z", false⟩]⟩]⟩, ⟨30, []⟩]]

def rp : Repeat := ⟨2, 2, false⟩

/-- the same play where the failing action `y` of act 1, scene 2 is *not* tolerated, and is followed by a further step -/
def playStrict : Play :=
  [[⟨0, [⟨"a", [⟨"x", false⟩, ⟨"y", true⟩]⟩, ⟨"b", [⟨"z", false⟩]⟩]⟩, ⟨50, [⟨"a", [⟨"x", false⟩, ⟨"y", false⟩, ⟨"x", false⟩]⟩]⟩,
    ⟨100, []⟩],
   [⟨0, [⟨"b", [⟨"z", false⟩]⟩]⟩, ⟨30, []⟩]]

/-- the same play where the tolerated failing action `y?` is followed by a further step -/
def playTol : Play :=
  [[⟨0, [⟨"a", [⟨"x", false⟩, ⟨"y", true⟩]⟩, ⟨"b", [⟨"z", false⟩]⟩]⟩, ⟨50, [⟨"a", [⟨"x", false⟩, ⟨"y", true⟩, ⟨"x", false⟩]⟩]⟩,
    ⟨100, []⟩],
   [⟨0, [⟨"b", [⟨"z", false⟩]⟩]⟩, ⟨30, []⟩]]

/-- an environment that differs from `env` on every line 1 only: there commands start late, take
very long and fail -/
def envSlowB : Env := { env with occ := fun p => if p.line == 1 then ⟨7, 1000, false⟩ else env.occ p }

/-- a time limit on the repetition that strikes after the second pass -/
def envTimeout : Env := { env with timedOut := fun k => k ≥ 1 }

end Ex

end Shk.Prompt
