import ShkModel.Lemmas.Retry
/-!
# C17 — retry loops respect their attempt and back-off bounds and stop when told

Model: `ShkModel/Model/Retry.lean` (what `pkg/crdb/retry/retry.go` does).  The theorems are for all
option sets (the band statements: those with nothing negative, `Valid o`; further bounds such as `o.rand ≤ 1`,
`1 ≤ o.mult`, `0 < o.maxRetries` are hypotheses where needed), all jitter draws `u ∈ [0,1)`, all operation
sequences and all resolutions of the waits (timer elapses / closer fires / context fires).  Floating point is
idealised as exact rationals.

The model follows the code as repaired by the `fix:` commits 7aa7712 (`NextCh`), bee36b3 (`Next` tests
the closer and the context before it waits), 00a346b and 2a10cc6 (`WithMaxAttempts`); the clamp at
`math.MaxInt64` of e0bc77b has no counterpart, durations being unbounded integers here.  The definitions
of the pinned commit are kept as `nextChOld` and `withMaxAttemptsOld`, and the contradictions they had with the property remain theorems about
them (`nextChOld_…`, `withMaxAttemptsOld_…`).  One contradiction is still in the code and is a
theorem with a concrete witness (`closed_stops_full_false`, `spec_strict_violated`), next to the
part that does hold (`closed_stops_partial`).
-/
namespace Shk.C17
open Shk.Retry

/-- A loop started while neither closer nor context has fired yields its first attempt at once
(`Next` without any wait, `NextCh` with the closed channel), whatever the options. -/
theorem first_immediate (o : Opts) (w : Wait) (u : Rat) :
    (next o (start false false) w).2 = .yieldNow ∧ (nextCh o (start false false) u).2 = .chClosed :=
  ⟨congrArg Prod.snd (next_fresh w rfl), congrArg Prod.snd (nextCh_fresh u rfl)⟩

/-- With `MaxRetries = m > 0`, any stretch of operations without a Reset — from
*any* state, hence in particular from the start and between two Resets, `Next` and `NextCh` mixed,
the closer / context firing anywhere — yields at most `m + 1` attempts. -/
theorem attempts_le (o : Opts) (hm : 0 < o.maxRetries) (s : St) (ops : List Op)
    (hnr : ∀ op ∈ ops, op ≠ Op.reset) :
    (yields (run o s ops).2 : Int) ≤ o.maxRetries + 1 := by
  have := yields_le_budget o o.maxRetries.toNat (by omega) (by omega) ops hnr s
  have := budget_le o.maxRetries.toNat s
  omega

/-- the bound is reached: `m + 1` attempts when every wait elapses (here m = 3, five calls). -/
example : (run ⟨10, 100, 2, 1/10, 3⟩ (start false false)
    (List.replicate 5 (.next (.elapses (1/2))))).2 =
    [.yieldNow, .yieldAfter 0 (1/2), .yieldAfter 1 (1/2), .yieldAfter 2 (1/2), .done] := by decide +kernel

/-- `MaxRetries = 0` means unbounded: every call yields. -/
theorem unbounded_when_zero (o : Opts) (h0 : o.maxRetries ≤ 0) (us : List Rat) :
    yields (run o (start false false) (us.map fun u => .next (.elapses u))).2 = us.length := by
  suffices ∀ s : St, s.stopped = false →
      yields (run o s (us.map fun u => .next (.elapses u))).2 = us.length from this _ rfl
  induction us with
  | nil => intro s _; rfl
  | cons u us ih =>
    intro s hs
    obtain ⟨h1, h2⟩ := next_elapses_live u hs (fun h : Exhausted o s => by omega)
    rw [List.map_cons, run, yields_cons, step, h1, ih _ h2, List.length_cons, Bool.toNat_true, Nat.add_comm]

/-- the code's `if backoff > max` is the `min` of the statement -/
theorem backoff_is_min (o : Opts) (n : Nat) :
    backoff o n = min (o.initial * o.mult ^ n) o.maxB := backoff_eq_spec o n

/-- For counter `n` and every draw `u ∈ [0,1)`, the delay computed by `retryIn`
(before truncation to whole ns) lies in `[b(1−r), b(1+r)+1)` with `b = min(I·Mⁿ, Max)`. -/
theorem backoff_band (o : Opts) (hv : Valid o) (n : Nat) (u : Rat) (hu0 : 0 ≤ u) (hu1 : u < 1) :
    bandLo o n ≤ retryInExact o n u ∧ retryInExact o n u < bandHi o n :=
  retryInExact_band o hv n u hu0 hu1

/-- with a multiplier of at least 1 the nominal back-off never shrinks from one attempt to the next … -/
theorem backoff_monotone (o : Opts) (hv : Valid o) (hm : 1 ≤ o.mult) (n : Nat) :
    backoff o n ≤ backoff o (n + 1) := by
  have := Rat.mul_le_mul_of_nonneg_left hm (Rat.mul_nonneg hv.initial (Rat.pow_nonneg (n := n) hv.mult))
  rw [Rat.mul_one, Rat.mul_assoc, ← Rat.pow_succ] at this
  exact backoff_le_of_prod_le this

/-- … and whatever the attempt number and the draw, no wait reaches `Max·(1 + r) + 1 ns`: the cap of the property
holds for the whole unbounded sequence of attempts, not just until the product first exceeds `Max`. -/
theorem delay_below_cap (o : Opts) (hv : Valid o) (n : Nat) (u : Rat) (hu0 : 0 ≤ u) (hu1 : u < 1) :
    retryInExact o n u < o.maxB + o.rand * o.maxB + 1 :=
  Std.lt_of_lt_of_le (retryInExact_band o hv n u hu0 hu1).2 (bandHi_le_cap hv.rand n)

/-- In whole nanoseconds (what `time.After` gets), never below the lower edge
rounded down to a whole ns, never at or above the upper edge, for `r ≤ 1`. -/
theorem lower_edge (o : Opts) (hv : Valid o) (hr1 : o.rand ≤ 1) (n : Nat) (u : Rat)
    (hu0 : 0 ≤ u) (hu1 : u < 1) :
    (bandLo o n).floor ≤ retryIn o n u ∧ bandLo o n - 1 < (retryIn o n u : Rat) ∧
    (retryIn o n u : Rat) < bandHi o n :=
  retryIn_band o hv hr1 n u hu0 hu1

/-- the delay is positive as soon as the lower edge is at least 1 ns: the timer of a wait is not ready at once. -/
theorem delay_pos (o : Opts) (hv : Valid o) (hr1 : o.rand ≤ 1) (n : Nat) (u : Rat)
    (hu0 : 0 ≤ u) (hu1 : u < 1) (h1 : 1 ≤ bandLo o n) : 0 < retryIn o n u := by
  have h := (lower_edge o hv hr1 n u hu0 hu1).1
  have : (1 : Int) ≤ (bandLo o n).floor := Rat.le_floor_iff.mpr (by simpa using h1)
  omega

/-! ## which counter a wait uses: the schedule -/

/-- In every reachable state, the wait that `Next` performs in front of attempt
`k + 1` (`k` = waits since the last effective Reset, so attempts are counted from 0) uses counter
`k`; by `backoff_band` its delay is in the band around `min(I·Mᵏ, Max)` — the schedule of the
property. -/
theorem next_schedule (o : Opts) (c x : Bool) (ops : List Op) (w : Wait) (n : Nat) (u : Rat) :
    (next o (run o (start c x) ops).1 w).2 = .yieldAfter n u → n = (run o (start c x) ops).1.waited :=
  (schedInv_run o _ ops (schedInv_start o c x)).next_counter

/-- `NextCh` (as repaired) uses the same counter `k` for the same wait, so
`backoff_band` and `lower_edge` give its delay the same band as `Next`'s. -/
theorem nextCh_schedule (o : Opts) (c x : Bool) (ops : List Op) (n : Nat) (u u' : Rat) :
    (nextCh o (run o (start c x) ops).1 u).2 = .chTimer n u' →
    n = (run o (start c x) ops).1.waited :=
  (schedInv_run o _ ops (schedInv_start o c x)).nextCh_counter

/-- `Next` and `NextCh` hand out the same schedule (here I = 40 ms, M = 1/4). -/
example : (run ⟨40000000, 2000000000, 1/4, 3/20, 2⟩ (start false false) [.nextCh 0, .nextCh 0, .nextCh 0, .nextCh 0]).2 =
    [.chClosed, .chTimer 0 0, .chTimer 1 0, .chNil] := by decide +kernel
example : (run ⟨40000000, 2000000000, 1/4, 3/20, 2⟩ (start false false)
    [.next (.elapses 0), .next (.elapses 0), .next (.elapses 0), .next (.elapses 0)]).2 =
    [.yieldNow, .yieldAfter 0 0, .yieldAfter 1 0, .done] := by decide +kernel

/-- **Witness against the pinned `NextCh`** (I = 40 ms, M = 1/4, r = 3/20, Max = 2 s): its first
wait after the immediate attempt was `chTimer 1 u`, and for every draw that delay is below the lower
edge of the band of that attempt (`34 ms`): it is at most `11.5 ms + 1 ns`. -/
theorem nextChOld_band_violated :
    let o : Opts := ⟨40000000, 2000000000, 1/4, 3/20, 0⟩
    (nextChOld o (nextChOld o (start false false) 0).1 0).2 = .chTimer 1 0 ∧
    bandLo o 0 = 34000000 ∧
    ∀ u : Rat, 0 ≤ u → u < 1 → retryInExact o 1 u < bandLo o 0 :=
  -- the upper edge for counter 1 is below the lower edge for counter 0
  ⟨by decide +kernel, by decide +kernel, fun u hu0 hu1 =>
    Std.lt_of_lt_of_le (backoff_band _ (.of_and (by decide +kernel)) 1 u hu0 hu1).2 (by decide +kernel)⟩

/-- with a multiplier above 1 that wait was *above* the band (I = 10 ms, M = 2: at least 17 ms
where the band ends at 11.5 ms + 1 ns). -/
theorem nextChOld_above_band :
    let o : Opts := ⟨10000000, 2000000000, 2, 3/20, 0⟩
    (nextChOld o (nextChOld o (start false false) 0).1 0).2 = .chTimer 1 0 ∧
    ∀ u : Rat, 0 ≤ u → u < 1 → bandHi o 0 < retryInExact o 1 u :=
  ⟨by decide +kernel, fun u hu0 hu1 =>
    Std.lt_of_lt_of_le (by decide +kernel) (backoff_band _ (.of_and (by decide +kernel)) 1 u hu0 hu1).1⟩

/-- a stop that fires *during* a wait ends that wait without an attempt, and the loop is stopped
from then on. -/
theorem stop_during_wait (o : Opts) (s : St) (hr : s.isReset = false) :
    (next o s .closerFires).2.isYield = false ∧ (next o s .ctxFires).2.isYield = false ∧
    ((next o s .closerFires).2 = .halted → (next o s .closerFires).1.stopped = true) ∧
    ((next o s .ctxFires).2 = .halted → (next o s .ctxFires).1.stopped = true) := by
  by_cases he : Exhausted o s
  · simp [next_done _ hr he, Out.isYield]
  · cases hs : s.stopped
    · simp [next_closerFires hr he hs, next_ctxFires hr he hs, Out.isYield, St.stopped]
    · simp [next_halted _ hr he hs, Out.isYield, hs]

/- The statement as the property has it, over `Next`/Reset/close/cancel sequences, is
`∀ s ops, s.stopped → yields (run o s ops).2 = 0`.  It does not hold: `closed_stops_full_false` below. -/

/-- What holds: after the stop has fired, whatever is called (including Reset, which no
longer has any effect), `Next` never yields an attempt after a wait, and yields at most one
attempt in total — the immediate one of a Reset that was issued *before* the stop and not yet
consumed. -/
theorem closed_stops_partial (o : Opts) (s : St) (ops : List Op) (hs : s.stopped = true)
    (hn : ∀ op ∈ ops, ∀ u, op ≠ Op.nextCh u) :
    yields (run o s ops).2 ≤ s.isReset.toNat ∧
    ∀ out ∈ (run o s ops).2, out.isWait = false := by
  induction ops generalizing s with
  | nil => exact ⟨Nat.zero_le _, nofun⟩
  | cons op ops ih =>
    rw [List.forall_mem_cons] at hn
    obtain ⟨h1, h2⟩ := stopped_step_quiet o s op hs hn.1
    obtain ⟨h3, h4⟩ := ih _ (stopped_step o s op hs) hn.2
    rw [run, yields_cons, List.forall_mem_cons]
    exact ⟨by omega, h2, h4⟩

/-- **The full statement is false for the code**: Start, first attempt, `Reset()`, then the closer
is closed, then `Next()` — a further attempt is yielded although the closer is closed. -/
theorem closed_stops_full_false :
    ∃ (o : Opts) (ops : List Op), ((run o (start false false) ops).1.stopped = true) ∧
      (step o (run o (start false false) ops).1 (.next (.elapses 0))).2 = .yieldNow :=
  ⟨⟨10, 100, 2, 1/10, 0⟩, [.next (.elapses 0), .reset, .close], by decide +kernel, by decide +kernel⟩

/-- likewise the very first attempt is yielded when the closer is closed between `Start` and the
first `Next`; a closer closed *before* `Start` yields nothing at all. -/
theorem first_attempt_vs_stop (o : Opts) (w : Wait) :
    (next o (step o (start false false) .close).1 w).2 = .yieldNow ∧
    (next o (start true false) w).2.isYield = false ∧ (next o (start false true) w).2.isYield = false := by
  exact ⟨rfl, (next_stopped w rfl rfl).1, (next_stopped w rfl rfl).1⟩

/-- A Reset issued while nothing has fired puts the loop back into its start
state — so everything that follows (immediate first attempt, counters 0,1,2… for the waits, the
attempt bound) is exactly what a fresh loop does, for every continuation. -/
theorem reset_restores (o : Opts) (s : St) (hs : s.stopped = false) (ops : List Op) :
    reset s = start false false ∧
    (run o (step o s .reset).1 ops).2 = (run o (start false false) ops).2 := by
  obtain ⟨attempt, isReset, closed, cancelled, waited⟩ := s
  simp only [St.stopped, Bool.or_eq_false_iff] at hs
  obtain ⟨h1, h2⟩ := hs
  subst h1 h2
  have : reset ⟨attempt, isReset, false, false, waited⟩ = start false false := by
    simp [reset, start, St.stopped]
  exact ⟨this, by simp only [step, this]⟩

/-- … and once the closer / context has fired, Reset changes nothing. -/
theorem reset_after_stop (s : St) (hs : s.stopped = true) : reset s = s := reset_stopped hs

/-! ## the property as one monitor over observable events -/

/-- Every run of the loop through `Next` / Reset / close / cancel — any
sequence, every resolution of the waits, every draw in `[0,1)` — produces an event trace that the
monitor of the property accepts in its *lenient* form (which tolerates the one immediate attempt of
a Reset issued before the stop): first attempt present, never more than `MaxRetries+1` attempts
between Resets, every wait at least the (whole-ns) lower edge of the band of *its* attempt, no
premature end, nothing after a stop. -/
theorem model_refines_spec (o : Opts) (hv : Valid o) (hr1 : o.rand ≤ 1) (c x : Bool) (ops : List Op)
    (hnc : ∀ op ∈ ops, ∀ u, op ≠ Op.nextCh u)
    (hu : ∀ op ∈ ops, ∀ u, op = Op.next (.elapses u) → 0 ≤ u ∧ u < 1) :
    monRun o 0 true (Mon.init (c || x)) 0 (trace o (start c x) ops) = none :=
  sim_trace o hv hr1 (fun _ => True) ops (fun _ _ _ _ => trivial) (fun _ _ op hop u h => absurd h (hnc op hop u)) hu
    _ _ 0 (sim_start o c x) trivial

/-- While neither closer nor context fires, every run through `Next`,
`NextCh` and Reset in any mixture is accepted by the *strict* monitor — the property as stated:
`NextCh` (as repaired) keeps the same first attempt, attempt bound and band as `Next`. -/
theorem model_refines_spec_live (o : Opts) (hv : Valid o) (hr1 : o.rand ≤ 1) (ops : List Op)
    (hlive : ∀ op ∈ ops, LiveOp op)
    (hu : ∀ op ∈ ops, ∀ u, (op = Op.next (.elapses u) ∨ op = Op.nextCh u) → 0 ≤ u ∧ u < 1) :
    monRun o 0 false (Mon.init false) 0 (trace o (start false false) ops) = none := by
  rw [monRun_strict_of_live o 0 _ 0 _ rfl (live_trace_no_stop o _ ops rfl hlive)]
  exact sim_trace o hv hr1 (·.stopped = false) ops (fun s hs op hop => (live_step o s op hs (hlive op hop)).1)
    (fun s hs op hop u h => ⟨hs, hu op hop u (.inr h)⟩) (fun op hop u h => hu op hop u (.inl h))
    _ _ 0 (sim_start o false false) rfl

/-- the *strict* monitor (the property as stated) rejects the code: Reset, stop, `Next`. -/
theorem spec_strict_violated :
    let o : Opts := ⟨10000000, 100000000, 2, 1/10, 0⟩
    monRun o 0 false (Mon.init false) 0
      (trace o (start false false) [.next (.elapses 0), .reset, .close, .next (.elapses 0)])
      = some (3, .afterStop) := by decide +kernel

/-- the monitor rejected the pinned `NextCh` with a multiplier below 1: the second attempt came
earlier than the lower edge of its band; it accepts the repaired one on the same calls. -/
theorem nextChOld_spec_violated :
    let o : Opts := ⟨40000000, 2000000000, 1/4, 3/20, 0⟩
    monRun o 0 false (Mon.init false) 0
      [.yield ((nextChOld o (start false false) 0).2.delay o),
       .yield ((nextChOld o (nextChOld o (start false false) 0).1 (1/2)).2.delay o)]
      = some (1, .early) ∧
    monRun o 0 false (Mon.init false) 0 (trace o (start false false) [.nextCh 0, .nextCh (1/2)]) = none := by
  exact ⟨by decide +kernel, by decide +kernel⟩

/-- For every `n ≥ 1`, whether or not the closer / context had fired
before the call, for every resolution of the waits and every success pattern of `fn`:
`fn` is called at most `n` times; once the call has returned, `fn` was called at least once —
unless the stop preceded the call — and the result is nil iff a call of `fn` succeeded; and the
call has returned once the environment has resolved `n + 1` iterations. -/
theorem withMaxAttempts_spec (o : Opts) (n : Int) (hn : 1 ≤ n) (c x : Bool) (env : List (Wait × Bool)) :
    ((withMaxAttempts o n c x env).calls : Int) ≤ n ∧
    ((withMaxAttempts o n c x env).result ≠ none →
      (1 ≤ (withMaxAttempts o n c x env).calls ∨ (c || x) = true) ∧
      ((withMaxAttempts o n c x env).result = some true ↔
        (withMaxAttempts o n c x env).succeeded = true)) ∧
    (n < env.length → (withMaxAttempts o n c x env).result ≠ none) := by
  have hn0 : ¬ n ≤ 0 := by omega
  simp only [withMaxAttempts, hn0, if_false]
  have h := wmaLoop_spec { o with maxRetries := n - 1 } n env (start c x) 0 (by omega)
  refine ⟨h.1, fun ht => ⟨?_, h.2.2.1⟩, fun hl => h.2.2.2 (by omega)⟩
  cases env with
  | nil => exact absurd rfl ht
  | cons e env =>
    cases c <;> cases x
    · exact .inl (wmaLoop_calls_pos _ n hn rfl e env)
    all_goals exact .inr rfl

/-- the same in terms of the oracle `wmaSpec` that the check evaluates on the real code. -/
theorem withMaxAttempts_meets_spec (o : Opts) (n : Int) (hn : 1 ≤ n) (c x : Bool) (env : List (Wait × Bool))
    (ht : (withMaxAttempts o n c x env).result ≠ none) :
    wmaSpec n (c || x) (withMaxAttempts o n c x env).calls
      ((withMaxAttempts o n c x env).result == some true)
      (withMaxAttempts o n c x env).succeeded = true := by
  have h := withMaxAttempts_spec o n hn c x env
  have h2 := h.2.1 ht
  simp only [wmaSpec, Bool.and_eq_true, Bool.or_eq_true, decide_eq_true_eq, beq_iff_eq]
  exact ⟨⟨by simpa using h2.1, h.1⟩, Bool.eq_iff_iff.mpr (beq_iff_eq.trans h2.2)⟩

/-- a stop that preceded the call: `fn` is not called and an error is returned — also when only
the closer was closed (fix: 2a10cc6). -/
theorem withMaxAttempts_stopped_before (o : Opts) (n : Int) (hn : 1 ≤ n) (c x : Bool)
    (hst : (c || x) = true) (e : Wait × Bool) (env : List (Wait × Bool)) :
    withMaxAttempts o n c x (e :: env) = ⟨0, false, some false⟩ := by
  obtain ⟨w, ok⟩ := e
  have h := (next_stopped (o := { o with maxRetries := n - 1 }) (s := ⟨0, false, c, x, 0⟩) w hst rfl).1
  simp [withMaxAttempts, show ¬ n ≤ 0 by omega, start_stopped hst, wmaLoop, h]

/-- `n ≤ 0`: an error, `fn` is not called. -/
theorem withMaxAttempts_nonpositive (o : Opts) (n : Int) (hn : n ≤ 0) (c x : Bool) (env : List (Wait × Bool)) :
    withMaxAttempts o n c x env = ⟨0, false, some false⟩ := by
  simp [withMaxAttempts, hn]

/-- **The pinned code, defect 1 — `WithMaxAttempts(…, 1, fn)` was unbounded**: `MaxRetries = n − 1 = 0`
means "no limit", so a function that keeps failing was called as often as the environment let the
timer elapse — `k` times for every `k`, not at most once. -/
theorem withMaxAttemptsOld_one_unbounded (o : Opts) (k : Nat) :
    (withMaxAttemptsOld o 1 false false (List.replicate k (.elapses 0, false))).calls = k := by
  simp only [withMaxAttemptsOld, show ¬ (1 : Int) ≤ 0 by omega, if_false]
  suffices ∀ (s : St) (c : Nat), s.stopped = false →
      (wmaLoopOld { o with maxRetries := 1 - 1 } s c (List.replicate k (.elapses 0, false))).calls = c + k from by
    simpa using this (start false false) 0 rfl
  induction k with
  | zero => intro s c _; rfl
  | succ k ih =>
    intro s c hs
    -- `MaxRetries = 0` never exhausts
    obtain ⟨h1, h2⟩ := next_elapses_live (o := { o with maxRetries := 1 - 1 }) 0 hs (fun h => absurd h.1 (Int.lt_irrefl 0))
    rw [List.replicate_succ, wmaLoopOld, if_pos h1, if_neg Bool.false_ne_true, ih _ _ h2]
    omega

/-- the repaired code on the same input: one call. -/
example : withMaxAttempts ⟨10, 100, 2, 1/10, 0⟩ 1 false false
    [(.elapses 0, false), (.elapses 0, false), (.elapses 0, false)] = ⟨1, false, some false⟩ := by decide +kernel

/-- **The pinned code, defect 2 — nil without a call**: with the closer already closed (context
alive) it did not call `fn` at all and returned nil (`errors.Wrap(ctx.Err()=nil, …)` is nil), for
every `n ≥ 1` and every environment that resolves at least one iteration. -/
theorem withMaxAttemptsOld_nil_without_call (o : Opts) (n : Int) (hn : 1 ≤ n) (e : Wait × Bool)
    (env : List (Wait × Bool)) :
    withMaxAttemptsOld o n true false (e :: env) = ⟨0, false, some true⟩ := by
  obtain ⟨w, ok⟩ := e
  obtain ⟨h1, -, h2⟩ := next_stopped (o := { o with maxRetries := n - 1 }) (s := ⟨0, false, true, false, 0⟩) w rfl rfl
  simp [withMaxAttemptsOld, show ¬ n ≤ 0 by omega, start_stopped, wmaLoopOld, h1, h2]

/-- non-vacuity: three attempts allowed, the third call succeeds / all fail / stopped in between. -/
example : withMaxAttempts ⟨10, 100, 2, 1/10, 0⟩ 3 false false
    [(.elapses 0, false), (.elapses 0, false), (.elapses 0, true)] = ⟨3, true, some true⟩ := by decide +kernel
example : withMaxAttempts ⟨10, 100, 2, 1/10, 0⟩ 3 false false
    [(.elapses 0, false), (.elapses 0, false), (.elapses 0, false), (.elapses 0, false)] =
    ⟨3, false, some false⟩ := by decide +kernel
example : withMaxAttempts ⟨10, 100, 2, 1/10, 0⟩ 3 false false
    [(.elapses 0, false), (.ctxFires, false)] = ⟨1, false, some false⟩ := by decide +kernel
example : withMaxAttempts ⟨10, 100, 2, 1/10, 0⟩ 3 true false [(.elapses 0, true)] = ⟨0, false, some false⟩ := by
  decide +kernel

/-! ## non-vacuity of the hypotheses used above -/

example : Valid ⟨10000000, 100000000, 2, 3 / 20, 3⟩ := .of_and (by decide +kernel)
example : Valid (Opts.norm ⟨0, 0, 0, 0, 0⟩) := .of_and (by decide +kernel)
/-- a run with Reset and an exhausted budget: every kind of event but `stop` (next example); by
`model_refines_spec` the lenient monitor accepts its trace -/
example : trace ⟨10, 100, 2, 1/10, 2⟩ (start false false)
    [.next (.elapses 0), .next (.elapses (1/2)), .reset, .next (.elapses 0), .next (.elapses 0),
     .next (.elapses 0), .next (.elapses 0), .next .closerFires, .reset, .next (.elapses 0)] =
    [.yield 0, .yield 10, .reset, .yield 0, .yield 9, .yield 18, .noYield, .noYield, .reset, .yield 0] := by
  decide +kernel
/-- a stop during a wait shows as `stop` followed by `noYield` -/
example : trace ⟨10, 100, 2, 1/10, 0⟩ (start false false) [.next (.elapses 0), .next .ctxFires, .next (.elapses 0)] =
    [.yield 0, .stop, .noYield, .noYield] := by decide +kernel
/-- the monitor is not vacuous: it rejects a wait that is one nanosecond short -/
example : monRun ⟨10, 100, 2, 1/10, 0⟩ 0 true (Mon.init false) 0 [.yield 0, .yield 8] = some (1, .early) := by
  decide +kernel
example : monRun ⟨10, 100, 2, 1/10, 0⟩ 0 true (Mon.init false) 0 [.yield 0, .yield 9] = none := by decide +kernel
example : monRun ⟨10, 100, 2, 1/10, 1⟩ 0 true (Mon.init false) 0 [.yield 0, .yield 9, .yield 18] = some (2, .tooMany) := by
  decide +kernel
example : monRun ⟨10, 100, 2, 1/10, 1⟩ 0 true (Mon.init false) 0 [.yield 0, .noYield] = some (1, .prematureEnd) := by
  decide +kernel
example : monRun ⟨10, 100, 2, 1/10, 1⟩ 0 true (Mon.init false) 0 [.noYield] = some (0, .firstMissing) := by
  decide +kernel

end Shk.C17
