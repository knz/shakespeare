import ShkModel.Lemmas.PrinterSched
/-! Lemmas for C10: loading the audience clauses in the order of a complete sequence of allowed
emissions rebuilds the audience. -/
namespace Shk.Printer
open Shk.Story (Act)

/-- the signals that loading the clause makes its member observe (`addSigs`) -/
def exSigs (c : AClause) : List Var :=
  match exOf c with
  | some e => e.vars.filter isSig
  | none => []

def chainSigs (l : List AClause) : List Var := l.flatMap exSigs

def ExpEquiv (x y : String × Ex) : Prop := x.1 = y.1 ∧ x.2.Equiv y.2

/-- the member `q` loaded so far against the original `m`, when the auditor clauses `doneC`
and the other clauses `doneF` have been read -/
structure QRel (m : Member) (doneC doneF : List AClause) (q : Member) : Prop where
  name : q.name = m.name
  bad : q.bad = .foulUpon
  good : q.good = .ignore
  active0 : doneC = [] → q.active = none
  active1 : doneC ≠ [] → m.active.isSome = true ∧ OptEquiv Ex.Equiv m.active q.active
  assigns : All₂ Assign.Equiv (assignsIn doneC) q.assigns
  expects : OptEquiv ExpEquiv (expectsIn doneC) q.expects
  obsNodup : q.obs.Nodup
  obs : ∀ v, v ∈ q.obs ↔ v ∈ chainSigs doneC ∨ watchClause v ∈ doneF
  ylabel : q.ylabel = if AClause.measures m.ylabel ∈ doneF then m.ylabel else ""
  noplot : q.noplot = decide (AClause.onlyHelps ∈ doneF)

/-- … together with what is still pending for it -/
def MRel (m : Member) (p : Pend) (q : Member) : Prop :=
  ∃ doneC doneF, chainOf m = doneC ++ p.chain ∧ (∀ x, x ∈ freeOf m ↔ x ∈ doneF ∨ x ∈ p.free) ∧
    QRel m doneC doneF q

theorem mrel_fresh (m : Member) : MRel m (pendOf m) { name := m.name } :=
  ⟨[], [], rfl, by simp [pendOf], rfl, rfl, rfl, fun _ => rfl, (absurd rfl), .nil, trivial,
    List.nodup_nil, by simp [chainSigs], by simp, by simp⟩

theorem split_chain {m : Member} (hm3 : m.active = none → m.assigns = [] ∧ m.expects = none)
    {doneC rest : List AClause} {c : AClause} (h : chainOf m = doneC ++ c :: rest) :
    (doneC = [] ∧ ∃ e, c = .audits e ∧ m.active = some e) ∨
    (doneC ≠ [] ∧ m.active.isSome = true ∧ ∀ e, c ≠ .audits e) := by
  cases hm : m.active with
  | none => simp [chainOf, hm, hm3 hm] at h
  | some e0 =>
    simp only [chainOf, hm, List.cons_append, List.nil_append] at h
    cases doneC with
    | nil => exact .inl ⟨rfl, e0, (List.cons.inj h).1.symm, rfl⟩
    | cons d ds =>
      refine .inr ⟨nofun, rfl, ?_⟩
      rintro e rfl
      rw [List.cons_append, List.cons.injEq] at h
      have : AClause.audits e ∈ ds ++ AClause.audits e :: rest := by simp
      rw [← h.2] at this
      cases hx : m.expects <;> simp [hx] at this

theorem expectsIn_eq_none : ∀ {l : List AClause}, (∀ x ∈ l, isExpectsC x = false) → expectsIn l = none
  | [], _ => rfl
  | c :: l, h => by
    have ih := expectsIn_eq_none fun x hx => h x (List.mem_cons_of_mem _ hx)
    cases c with
    | expects md e => exact absurd (h _ List.mem_cons_self) nofun
    | _ => exact ih

theorem count_expects (m : Member) : (chainOf m).countP isExpectsC ≤ 1 := by
  rw [chainOf_eq, List.countP_append, List.countP_eq_zero.mpr fun x hx => by simp [chainHead_noexp hx],
    Nat.zero_add]
  exact Nat.le_trans (List.countP_le_length) (chainTail_length m)

/-- a member has one `expects` clause at most: none was read before the one that is pending -/
theorem expectsIn_of_pending {m : Member} {doneC rest : List AClause} {md : String} {e : Ex}
    (h : chainOf m = doneC ++ .expects md e :: rest) : expectsIn doneC = none := by
  have := count_expects m
  rw [h, List.countP_append, List.countP_cons] at this
  simp only [isExpectsC, if_true] at this
  exact expectsIn_eq_none fun x hx => by
    simpa using List.countP_eq_zero.mp (by omega : doneC.countP isExpectsC = 0) x hx

/-- `VarOk` once all of `ms` is loaded in `c0`, whatever the order -/
def VarStatic (c0 : Cfg) (ms : List Member) : Var → Prop
  | .comp n => n ∈ predefined ∨ n ∈ targetsOf ms
  | .sig a s => SigOk c0 a s

/-- what the audience `ms` of a loaded configuration satisfies, against the configuration `c0`
(its roles and cast) in which it is loaded again -/
structure AudStatic (c0 : Cfg) (ms : List Member) : Prop where
  names : (ms.map (·.name)).Nodup
  m3 : ∀ m ∈ ms, m.active = none → m.assigns = [] ∧ m.expects = none
  exVars : ∀ m ∈ ms, ∀ c ∈ chainOf m, ∀ e, exOf c = some e → ∀ v ∈ e.vars,
    VarStatic c0 ms v ∧ (isSig v = true → v ∈ m.obs)
  targets : (targetsOf ms).Nodup ∧ ∀ v ∈ targetsOf ms, v ∉ predefined
  obs : ∀ m ∈ ms, m.obs.Nodup ∧ ∀ v ∈ m.obs, VarStatic c0 ms v
  assignOk : ∀ m ∈ ms, ∀ a ∈ m.assigns, okAssign a = true

/-- `MRel` for the member as it stands in `cur` -/
def PRel (cur : Cfg) (m : Member) (p : Pend) : Prop :=
  p.name = m.name ∧ MRel m p (getMember cur m.name)

/-- The invariant of the replay.  `cur` is `c0` with the members mentioned so far, in their order, each
related to what is still pending for it; a variable of the audience is defined in `cur` exactly when
it has left `undef`, and those whose definition is pending are still in `undef`. -/
structure RInv (c0 : Cfg) (ms : List Member) (undef : List String) (ps : List Pend) (cur : Cfg) : Prop where
  fields : cur = { c0 with members := cur.members }
  names : cur.members.map (·.name) = (ps.filter (·.mentioned)).map (·.name)
  rel : All₂ (PRel cur) ms ps
  defd : ∀ v, v ∈ targetsOf cur.members ↔ (v ∈ targetsOf ms ∧ v ∉ undef)
  pendNodup : (pendVars ps).Nodup
  pend : ∀ v ∈ pendVars ps, v ∈ undef
  sorted : List.Pairwise (fun a b => b.mentioned = true → a.mentioned = true) ps

/-- The step of the replay: a clause of `p` was emitted, `p'` is what is still pending for the
member, and loading the clause stored the member back as `q`, with the assignments `ex` more (the
variables that the emission took out of `undef`). -/
theorem RInv.step {c0 : Cfg} {mpre mpost : List Member} {m : Member} {undef undef' : List String}
    {pre post : List Pend} {p p' : Pend} {cur : Cfg} {q : Member} {ex : List Assign}
    (hinv : RInv c0 (mpre ++ m :: mpost) undef (pre ++ p :: post) cur)
    (hnod : ((mpre ++ m :: mpost).map (·.name)).Nodup)
    (hapre : All₂ (PRel cur) mpre pre) (hm : PRel cur m p) (hapost : All₂ (PRel cur) mpost post)
    (hpre : ∀ x ∈ pre, x.mentioned = true) (hp'n : p'.name = p.name) (hp'm : p'.mentioned = true)
    (hqn : q.name = p.name) (hqa : q.assigns = (getMember cur p.name).assigns ++ ex)
    (hpa : (assignsIn p.chain).map (·.var) = ex.map (·.var) ++ (assignsIn p'.chain).map (·.var))
    (hu : ∀ v, v ∈ undef' ↔ v ∈ undef ∧ v ∉ ex.map (·.var))
    (hrel : MRel m p' q) :
    RInv c0 (mpre ++ m :: mpost) undef' (pre ++ p' :: post) (putMember cur q) := by
  obtain ⟨hne_pre, hne_post⟩ := nodup_map_mid hnod
  have hname : p.name = m.name := hm.1
  have hpv : ∀ r : Pend, pendVars (pre ++ r :: post) =
      pendVars pre ++ ((assignsIn r.chain).map (·.var) ++ pendVars post) := fun r => by
    rw [pendVars_append, pendVars_cons]
  have hnd := hinv.pendNodup
  rw [hpv, hpa, List.append_assoc, List.nodup_append] at hnd
  have hnd2 := List.nodup_append.mp hnd.2.1
  refine ⟨?_, ?_, ?_, fun v => ?_, ?_, fun v hv => ?_, ?_⟩
  · rw [hinv.fields]; rfl
  · have hpre_f : pre.filter (·.mentioned) = pre := List.filter_eq_self.mpr hpre
    rw [names_put, hinv.names, hqn]
    simp only [List.filter_append, List.filter_cons, hp'm, if_true, hpre_f, List.map_append,
      List.map_cons, hp'n]
    cases hpm : p.mentioned with
    | true => simp
    | false =>
      have hpost_f : post.filter (·.mentioned) = [] := List.filter_eq_nil_iff.mpr fun b hb hbm => by
        simpa [hpm] using (List.pairwise_cons.mp (List.pairwise_append.mp hinv.sorted).2.1).1 b hb hbm
      have hnotin : p.name ∉ pre.map (·.name) := by
        rw [← hapre.map_eq (f := (·.name)) (g := (·.name)) fun _ _ h => h.1.symm, hname]
        exact fun h => let ⟨x, hx, e⟩ := List.mem_map.mp h; hne_pre x hx e
      simp [hpost_f, hnotin]
  · have hother : ∀ {l : List Member} {l' : List Pend}, (∀ x ∈ l, x.name ≠ m.name) →
        All₂ (PRel cur) l l' → All₂ (PRel (putMember cur q)) l l' := fun hl h =>
      h.mono fun a ha b hr => ⟨hr.1, by
        rw [getMember_put, if_neg (by rw [hqn, hname]; exact hl a ha)]; exact hr.2⟩
    refine (hother hne_pre hapre).append (.cons ⟨hp'n.trans hname, ?_⟩ (hother hne_post hapost))
    rw [getMember_put, if_pos (by rw [hqn, hname])]
    exact hrel
  · obtain ⟨doneC, -, hch, -⟩ := hm.2
    have hex : v ∈ ex.map (·.var) → v ∈ targetsOf (mpre ++ m :: mpost) := fun hv => by
      have : v ∈ (assignsIn (chainOf m)).map (·.var) := by
        rw [hch, assignsIn_append, List.map_append, hpa]; simp [hv]
      rw [assignsIn_chainOf] at this
      obtain ⟨a, ha, rfl⟩ := List.mem_map.mp this
      exact mem_targetsOf (by simp) ha
    rw [(targets_put_perm (hqn ▸ hqa)).mem_iff, List.mem_append, hinv.defd v, hu v]
    by_cases hv : v ∈ ex.map (·.var) <;> simp [hv, hex]
  · rw [hpv, List.nodup_append]
    exact ⟨hnd.1, hnd2.2.1, fun x hx y hy => hnd.2.2 x hx y (List.mem_append_right _ hy)⟩
  · rw [hpv] at hv
    refine (hu v).mpr ⟨hinv.pend v ?_, fun hvx => ?_⟩
    · rw [hpv, hpa]
      simp only [List.mem_append] at hv ⊢
      rcases hv with h | h | h <;> simp [h]
    · rcases List.mem_append.mp hv with h | h
      · exact hnd.2.2 v h v (List.mem_append_left _ hvx) rfl
      · exact hnd2.2.2 v hvx v h rfl
  · have hs := List.pairwise_append.mp hinv.sorted
    exact List.pairwise_append.mpr ⟨hs.1, List.pairwise_cons.mpr ⟨fun _ _ _ => hp'm,
      (List.pairwise_cons.mp hs.2.1).2⟩, fun a ha _ _ _ => hpre a ha⟩

theorem varOk_of_static {c0 : Cfg} {ms : List Member} {undef : List String} {ps : List Pend} {cur : Cfg}
    (hinv : RInv c0 ms undef ps cur) {v : Var} (hv : VarStatic c0 ms v)
    (hr : ∀ n, v = .comp n → n ∉ undef) : VarOk cur v := by
  cases v with
  | comp n => exact mem_definedVars.mpr (hv.imp_right fun h => (hinv.defd n).mpr ⟨h, hr n rfl⟩)
  | sig a s =>
    have hf := hinv.fields
    simp only [VarOk, SigOk, findActor, findRole] at hv ⊢
    rwa [hf]

theorem exVars_ok {c0 : Cfg} {ms : List Member} {undef : List String} {ps : List Pend} {cur : Cfg}
    (hst : AudStatic c0 ms) (hinv : RInv c0 ms undef ps cur) {m : Member} (hm : m ∈ ms)
    {c : AClause} (hc : c ∈ chainOf m) {e e' : Ex} (he : exOf c = some e)
    (hr : ready undef c = true) (hee : e.Equiv e') : ExOk cur e' := by
  intro v hv
  have hv' : v ∈ e.vars := hee.2.mem_iff.mpr hv
  refine varOk_of_static hinv (hst.exVars m hm c hc e he v hv').1 ?_
  rintro n rfl
  obtain ⟨e1, he1, hu⟩ := chain_exOf hc
  obtain rfl : e1 = e := Option.some.inj (he1.symm.trans he)
  simp only [ready, List.all_eq_true, Bool.not_eq_true', List.contains_eq_mem, decide_eq_false_iff_not] at hr
  exact hr n (hu ▸ mem_compVars.mpr hv')

theorem obs_chain {m : Member} {doneC doneF : List AClause} {q : Member} (hq : QRel m doneC doneF q)
    {c : AClause} {e e' : Ex} (he : exOf c = some e) (hee : e.Equiv e') (v : Var) :
    v ∈ addSigs q.obs e'.vars ↔ v ∈ chainSigs (doneC ++ [c]) ∨ watchClause v ∈ doneF := by
  simp only [mem_addSigs, hq.obs v, chainSigs, List.flatMap_append, List.flatMap_cons, List.flatMap_nil,
    exSigs, he, List.append_nil, List.mem_append, List.mem_filter, hee.2.mem_iff]
  simp only [or_assoc, or_comm, or_left_comm]

theorem step_chain {c0 : Cfg} {ms : List Member} {undef : List String}
    {pre post : List Pend} {p : Pend} {cur : Cfg} {c c' : AClause} {rest : List AClause}
    (hst : AudStatic c0 ms) (hinv : RInv c0 ms undef (pre ++ p :: post) cur)
    (hpre : ∀ q ∈ pre, q.mentioned = true) (hc : p.chain = c :: rest) (hr : ready undef c = true)
    (hcc : c.Equiv c') :
    ∃ cur', stepAud cur p.name c' = some cur' ∧
      RInv c0 ms (afterPrint undef c) (pre ++ ⟨p.name, rest, p.free, true⟩ :: post) cur' := by
  obtain ⟨mpre, m, mpost, rfl, hapre, hmp, hapost⟩ := hinv.rel.split_right
  obtain ⟨hname, doneC, doneF, hch, hfr, hq⟩ := hmp
  have hm : m ∈ mpre ++ m :: mpost := by simp
  rw [hc] at hch
  have hcm : c ∈ chainOf m := by simp [hch]
  have hgn := getMember_name cur p.name
  -- the invariant after the member was stored back as `q`, with the assignments `ex` more
  have key : ∀ {q : Member} {ex : List Assign}, q.name = p.name →
      q.assigns = (getMember cur p.name).assigns ++ ex → (defines c).toList = ex.map (·.var) →
      QRel m (doneC ++ [c]) doneF q →
      RInv c0 _ (afterPrint undef c) (pre ++ ⟨p.name, rest, p.free, true⟩ :: post) (putMember cur q) :=
    fun hqn hqa hd h => hinv.step hst.names hapre ⟨hname, doneC, doneF, hc ▸ hch, hfr, hq⟩ hapost hpre
      rfl rfl hqn hqa (by rw [hc, assignsIn_cons_vars, hd]) (fun v => by rw [mem_afterPrint, hd])
      ⟨doneC ++ [c], doneF, by simpa using hch, hfr, h⟩
  rw [← hname] at hq
  have hvars : ∀ {e e' : Ex}, exOf c = some e → e.Equiv e' → ExOk cur e' :=
    fun he hee => exVars_ok hst hinv hm hcm he hr hee
  -- after its first clause the member has an activation period
  have hactive : (∀ e, c ≠ .audits e) → doneC ≠ [] ∧ ∃ x, (getMember cur p.name).active = some x :=
    fun hne => by
      obtain ⟨rfl, e, rfl, -⟩ | ⟨hd, -, -⟩ := split_chain (hst.m3 m hm) hch
      · exact absurd rfl (hne e)
      · exact ⟨hd, Option.isSome_iff_exists.mp ((hq.active1 hd).2.isSome_eq ▸ (hq.active1 hd).1)⟩
  rcases mem_chainOf.mp hcm with ⟨e, hact, rfl⟩ | ⟨a, ham, rfl⟩ | ⟨⟨md, e⟩, hexp, rfl⟩
  · cases c' with
    | audits e' =>
      obtain ⟨rfl, -⟩ | ⟨-, -, h⟩ := split_chain (hst.m3 m hm) hch
      · have ha0 : (getMember cur p.name).assigns = [] := hq.assigns.eq_nil
        have he0 : (getMember cur p.name).expects = none := hq.expects.eq_none
        refine ⟨_, pAudits_iff.mpr ⟨hq.active0 rfl, hvars rfl hcc, rfl⟩, key hgn (ex := []) (List.append_nil _).symm rfl
          { hq with
            active0 := nofun, active1 := fun _ => ⟨by simp [hact], by rw [hact]; exact hcc⟩
            assigns := by show All₂ _ [] (getMember cur p.name).assigns; rw [ha0]; exact .nil
            expects := by show OptEquiv _ none (getMember cur p.name).expects; rw [he0]; trivial
            obsNodup := nodup_addSigs _ _ hq.obsNodup, obs := obs_chain hq rfl hcc }⟩
      · exact absurd rfl (h e)
    | _ => cases hcc
  · cases c' with
    | assign a' =>
      obtain ⟨hvar, hmode, hee⟩ : a.Equiv a' := hcc
      obtain ⟨hd, x, hx⟩ := hactive nofun
      have hok : okAssign a' = true := by
        simpa only [okAssign, ← hmode] using hst.assignOk m hm a ham
      have hnew : a'.var ∉ definedVars cur := by
        rw [← hvar, mem_definedVars]
        rintro (h | h)
        · exact hst.targets.2 a.var (mem_targetsOf hm ham) h
        · exact ((hinv.defd a.var).mp h).2
            (hinv.pend _ (by simp [pendVars_append, pendVars_cons, hc, assignsIn]))
      have hstep : stepAud cur p.name (.assign a') = pAssign cur p.name a' := by
        simp only [stepAud, needCond, hx]
      refine ⟨_, hstep.trans (pAssign_iff.mpr ⟨hok, hvars rfl hee, hnew, rfl⟩), key hgn (ex := [a']) rfl (by simp [defines, hvar])
          { hq with
            active0 := by simp, active1 := fun _ => hq.active1 hd
            assigns := by
              simpa [assignsIn_append, assignsIn] using hq.assigns.append (.cons ⟨hvar, hmode, hee⟩ .nil)
            expects := by simpa [expectsIn_append, expectsIn, observing] using hq.expects
            obsNodup := nodup_addSigs _ _ hq.obsNodup, obs := obs_chain hq rfl hee }⟩
    | _ => cases hcc
  · cases c' with
    | expects md' e' =>
      obtain ⟨rfl, hee⟩ : md = md' ∧ e.Equiv e' := hcc
      obtain ⟨hd, x, hx⟩ := hactive nofun
      have hnone := expectsIn_of_pending hch
      have he0 : (getMember cur p.name).expects = none := (hnone ▸ hq.expects).eq_none
      have hstep : stepAud cur p.name (.expects md e') = pExpects cur p.name md e' := by
        simp only [stepAud, needCond, hx]
      refine ⟨_, hstep.trans (pExpects_iff.mpr ⟨he0, hvars rfl hee, rfl⟩), key hgn (ex := []) (List.append_nil _).symm rfl
          { hq with
            active0 := by simp, active1 := fun _ => hq.active1 hd
            assigns := by simpa [assignsIn_append, assignsIn, observing] using hq.assigns
            expects := by simpa [expectsIn_append, expectsIn, hnone, OptEquiv, ExpEquiv] using hee
            obsNodup := nodup_addSigs _ _ hq.obsNodup, obs := obs_chain hq rfl hee }⟩
    | _ => cases hcc

theorem step_free {c0 : Cfg} {ms : List Member} {undef : List String}
    {pre post : List Pend} {p : Pend} {cur : Cfg} {c c' : AClause} {f1 f2 : List AClause}
    (hst : AudStatic c0 ms) (hinv : RInv c0 ms undef (pre ++ p :: post) cur)
    (hpre : ∀ q ∈ pre, q.mentioned = true) (hc : p.free = f1 ++ c :: f2) (hr : ready undef c = true)
    (hcc : c.Equiv c') :
    ∃ cur', stepAud cur p.name c' = some cur' ∧
      RInv c0 ms undef (pre ++ ⟨p.name, p.chain, f1 ++ f2, true⟩ :: post) cur' := by
  obtain ⟨mpre, m, mpost, rfl, hapre, hmp, hapost⟩ := hinv.rel.split_right
  obtain ⟨hname, doneC, doneF, hch, hfr, hq⟩ := id hmp
  have hm : m ∈ mpre ++ m :: mpost := by simp
  have hcm : c ∈ freeOf m := (hfr c).mpr (.inr (by simp [hc]))
  have hgn := getMember_name cur p.name
  have hfr' : ∀ x, x ∈ freeOf m ↔ x ∈ doneF ++ [c] ∨ x ∈ f1 ++ f2 := fun x => by
    simp only [hfr x, hc, List.mem_append, List.mem_cons, List.not_mem_nil, or_false]
    simp only [or_assoc, or_comm, or_left_comm]
  have key : ∀ {q : Member}, q.name = p.name → q.assigns = (getMember cur p.name).assigns →
      QRel m doneC (doneF ++ [c]) q →
      RInv c0 _ undef (pre ++ ⟨p.name, p.chain, f1 ++ f2, true⟩ :: post) (putMember cur q) :=
    fun hqn hqa h => hinv.step (ex := []) hst.names hapre hmp hapost hpre rfl rfl hqn
      (by simpa using hqa) (by simp) (by simp) ⟨doneC, doneF ++ [c], hch, hfr', h⟩
  rw [← hname] at hq
  have hw := fun v => (watchClause_ne v)
  rcases mem_freeOf.mp hcm with ⟨v, hv, rfl⟩ | ⟨rfl, hne⟩ | ⟨rfl, -⟩
  · have hvs := (hst.obs m hm).2 v hv
    have hq1 := key (q := addObs (getMember cur p.name) v) (by rw [addObs_eq]; exact hgn)
      (by rw [addObs_eq]) <| by
      rw [addObs_eq]
      exact { hq with
        obsNodup := by simpa only [addObs_eq] using nodup_addObs v hq.obsNodup
        obs := fun x => by
          simpa only [addObs_eq, hq.obs x, List.mem_append, List.mem_singleton, watchClause_inj, or_assoc]
            using mem_addObs (m := getMember cur p.name) (v := v) (x := x)
        ylabel := by simp [hq.ylabel, ((hw v).1 _).symm], noplot := by simp [hq.noplot, (hw v).2.symm] }
    cases v with
    | comp n =>
      obtain rfl : AClause.watchVar n = c' := hcc
      have hnu : n ∉ undef := by simpa [ready, watchClause, uses] using hr
      exact ⟨_, pWatchVar_iff.mpr ⟨varOk_of_static hinv hvs (by rintro k ⟨⟩; exact hnu), rfl⟩, hq1⟩
    | sig a s =>
      obtain rfl : AClause.watchSig (.actor a) s = c' := hcc
      exact ⟨_, pWatchActor_iff.mpr ⟨varOk_of_static hinv hvs nofun, rfl⟩, hq1⟩
  · obtain rfl : AClause.measures m.ylabel = c' := hcc
    exact ⟨_, pMeasures_iff.mpr ⟨hne, rfl⟩, key hgn rfl
      { hq with obs := fun x => by simp [hq.obs x, (hw x).1], ylabel := by simp, noplot := by simp [hq.noplot] }⟩
  · obtain rfl : AClause.onlyHelps = c' := hcc
    exact ⟨_, (rfl : pHelps cur p.name = _), key hgn rfl
      { hq with obs := fun x => by simp [hq.obs x, (hw x).2], ylabel := by simp [hq.ylabel], noplot := by simp }⟩

/-- the same member name, the same clause up to the order of the variables of its expression -/
def KEquiv (x y : String × AClause) : Prop := x.1 = y.1 ∧ x.2.Equiv y.2

theorem replay_run {mt : String → Act → Bool} {c0 : Cfg} {ms : List Member} (hst : AudStatic c0 ms)
    {undef : List String} {ps : List Pend} {T : List (String × AClause)} {u' : List String} {ps' : List Pend}
    (hrun : Run undef ps T u' ps') :
    ∀ {cur : Cfg} {T' : List (String × AClause)}, RInv c0 ms undef ps cur → All₂ KEquiv T T' →
      ∃ cur', loadFrom mt cur (T'.map fun k => Clause.aud k.1 k.2) = some cur' ∧ RInv c0 ms u' ps' cur' := by
  induction hrun with
  | nil u ps => rintro cur _ hinv ⟨⟩; exact ⟨cur, rfl, hinv⟩
  | @cons u ps n c u1 ps1 _ _ _ he _ ih =>
    rintro cur _ hinv (_ | @⟨_, k', _, _, ⟨hn, hcc⟩, hrest⟩)
    obtain ⟨cur1, h1, hinv1⟩ : ∃ cur1, stepAud cur n k'.2 = some cur1 ∧ RInv c0 ms u1 ps1 cur1 := by
      cases he with
      | chain pre p post c rest hpre hc hr => exact step_chain hst hinv hpre hc hr hcc
      | free pre p post f1 c f2 hpre hc hr hd => exact step_free hst hinv hpre hc hr hcc
    obtain ⟨cur2, h2, hinv2⟩ := ih hinv1 hrest
    exact ⟨cur2, by simpa [loadFrom, step, ← hn, h1] using h2, hinv2⟩

theorem rinv_init {c0 : Cfg} {ms : List Member} (hst : AudStatic c0 ms) (hm0 : c0.members = []) :
    RInv c0 ms (targetsOf ms) (ms.map pendOf) c0 := by
  have hfresh : ∀ n, getMember c0 n = { name := n } := fun n => by simp [getMember, findMember, hm0]
  refine ⟨rfl, ?_, All₂.of_map fun m _ => ⟨rfl, hfresh _ ▸ mrel_fresh m⟩, ?_,
    pendVars_init ms ▸ hst.targets.1, fun v hv => pendVars_init ms ▸ hv, ?_⟩
  · simp [hm0, List.filter_map, Function.comp_def, pendOf]
  · simp [hm0, targetsOf]
  · exact List.pairwise_map.mpr (List.pairwise_of_forall fun _ _ => nofun)

/-- the reloaded member before the interpretation clauses: everything but the interpretation,
which is the default one -/
structure MEq0 (a b : Member) : Prop where
  name : a.name = b.name
  active : OptEquiv Ex.Equiv a.active b.active
  assigns : All₂ Assign.Equiv a.assigns b.assigns
  expects : OptEquiv (fun x y => x.1 = y.1 ∧ x.2.Equiv y.2) a.expects b.expects
  obs : a.obs.Perm b.obs
  ylabel : a.ylabel = b.ylabel
  noplot : a.noplot = b.noplot
  bad : b.bad = .foulUpon
  good : b.good = .ignore

theorem meq0_of_mrel {c0 : Cfg} {ms : List Member} (hst : AudStatic c0 ms) {m : Member} (hm : m ∈ ms)
    {p : Pend} {q : Member} (hrel : MRel m p q) (hpc : p.chain = []) (hpf : p.free = []) : MEq0 m q := by
  obtain ⟨doneC, doneF, hch, hfr, hq⟩ := hrel
  obtain rfl : chainOf m = doneC := by simpa [hpc] using hch
  have hfr' : ∀ x, x ∈ doneF ↔ x ∈ freeOf m := fun x => by simp [hfr x, hpf]
  refine ⟨hq.name.symm, ?_, assignsIn_chainOf m ▸ hq.assigns, expectsIn_chainOf m ▸ hq.expects, ?_, ?_, ?_,
    hq.bad, hq.good⟩
  · by_cases hc : chainOf m = []
    · have ha : m.active = none := by
        cases hma : m.active with
        | none => rfl
        | some e => simp [chainOf, hma] at hc
      rw [ha, hq.active0 hc]; trivial
    · exact (hq.active1 hc).2
  · refine (List.perm_ext_iff_of_nodup (hst.obs m hm).1 hq.obsNodup).mpr fun v => ?_
    rw [hq.obs v, hfr', watch_mem_freeOf]
    refine ⟨.inr, fun h => h.elim (fun h => ?_) id⟩
    obtain ⟨c, hc, hvc⟩ := List.mem_flatMap.mp h
    unfold exSigs at hvc
    cases he : exOf c with
    | none => simp [he] at hvc
    | some e =>
      rw [he, List.mem_filter] at hvc
      exact (hst.exVars m hm c hc e he v hvc.1).2 hvc.2
  · rw [hq.ylabel]
    by_cases hy : m.ylabel = "" <;> simp [hfr', measures_mem_freeOf, hy]
  · simp [hq.noplot, hfr', helps_mem_freeOf]

theorem aud_reload (mt : String → Act → Bool) {c0 : Cfg} {ms : List Member} (hst : AudStatic c0 ms)
    (hm0 : c0.members = []) (hne : ∀ m ∈ ms, canon m ≠ []) {rk : String → AClause → Nat}
    (hr : Ranked ms rk) {T' : List (String × AClause)} (hT : All₂ KEquiv (sched ms) T') :
    ∃ qs, loadFrom mt c0 (T'.map fun k => Clause.aud k.1 k.2) = some { c0 with members := qs } ∧
      All₂ MEq0 ms qs := by
  obtain ⟨u', ps', hrun, hleft⟩ := sched_run hr hne
  obtain ⟨cur', hload, hinv⟩ := replay_run (mt := mt) hst hrun (rinv_init hst hm0) hT
  have hempty : ∀ p ∈ ps', p.chain = [] ∧ p.free = [] := fun p hp =>
    List.append_eq_nil_iff.mp <| List.eq_nil_iff_forall_not_mem.mpr fun c hc => by
      simpa [hleft] using mem_leftover.mpr ⟨p, hp, rfl, hc⟩
  -- nothing is pending, hence everybody was mentioned
  have hment : ∀ p ∈ ps', p.mentioned = true := fun p hp => by
    cases hpm : p.mentioned with
    | true => rfl
    | false =>
      obtain ⟨m, hm, -, -, -, hun⟩ := (hrun.pinv (pinv_init ms)).align.mem_right hp
      exact absurd (by simp [canon, ← (hun hpm).1, ← (hun hpm).2, hempty p hp]) (hne m hm)
  have hnames : cur'.members.map (·.name) = ms.map (·.name) := by
    rw [hinv.names, List.filter_eq_self.mpr hment]
    exact (hinv.rel.map_eq fun _ _ h => h.1.symm).symm
  refine ⟨cur'.members, by rw [hload, hinv.fields], ?_⟩
  rw [members_eq_map (hnames ▸ hst.names), hnames, List.map_map]
  refine All₂.of_map fun m hm => ?_
  obtain ⟨p, hp, -, hrel⟩ := hinv.rel.mem_left hm
  exact meq0_of_mrel hst hm hrel (hempty p hp).1 (hempty p hp).2

end Shk.Printer
