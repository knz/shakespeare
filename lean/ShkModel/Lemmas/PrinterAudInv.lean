import ShkModel.Lemmas.PrinterInv
import ShkModel.Lemmas.PrinterRank
/-! Lemmas for C10: storing a member back with more clauses keeps the audience invariant `AudInv` (`audInv_put`: its
static part by `audStatic_put`, the ranking by `ranked_put`); each audience clause of the parser is an instance. -/
namespace Shk.Printer
open Shk.Story (Act)

theorem varStatic_iff (c : Cfg) (v : Var) : VarStatic c c.members v ↔ VarOk c v := by
  cases v with
  | comp n => exact mem_definedVars.symm
  | sig a s => rfl

theorem uses_watch {c : Cfg} {v : Var} (h : VarOk c v) : ∀ k ∈ uses (watchClause v), k ∈ definedVars c := by
  cases v with
  | comp n => simpa [watchClause, uses, VarOk] using h
  | sig a s => nofun

theorem uses_defined {c : Cfg} (hs : AudStatic c c.members) :
    ∀ m ∈ c.members, ∀ x ∈ canon m, ∀ v ∈ uses x, v ∈ definedVars c := by
  intro m hm x hx v hv
  rcases List.mem_append.mp hx with hx | hx
  · obtain ⟨e, he, hu⟩ := chain_exOf hx
    exact (varStatic_iff c (.comp v)).mp (hs.exVars m hm x hx e he _ (mem_compVars.mp (hu ▸ hv))).1
  · rcases mem_freeOf.mp hx with ⟨w, hw, rfl⟩ | ⟨rfl, -⟩ | ⟨rfl, -⟩
    · exact uses_watch ((varStatic_iff c w).mp ((hs.obs m hm).2 w hw)) v hv
    · cases hv
    · cases hv

/-- `q1` may be stored in `c`: it is the member of its name with the assignments `ex` more, all new, and
whatever else it has more (an auditor clause, observed variables) speaks of what `c` defines. -/
structure PutOk (c : Cfg) (q1 : Member) (ex : List Assign) : Prop where
  m3 : q1.active = none → q1.assigns = [] ∧ q1.expects = none
  assigns : q1.assigns = (getMember c q1.name).assigns ++ ex
  exOk : ∀ a ∈ ex, okAssign a = true ∧ a.var ∉ definedVars c
  exNodup : (ex.map (·.var)).Nodup
  chain : ∀ x ∈ chainOf q1, x ∈ chainOf (getMember c q1.name) ∨
    ∃ e, exOf x = some e ∧ ExOk c e ∧ ∀ v ∈ e.vars, isSig v = true → v ∈ q1.obs
  obs : q1.obs.Nodup ∧ (∀ v ∈ (getMember c q1.name).obs, v ∈ q1.obs) ∧
    ∀ v ∈ q1.obs, v ∈ (getMember c q1.name).obs ∨ VarOk c v

theorem audStatic_put {c : Cfg} (hs : AudStatic c c.members) {q1 : Member} {ex : List Assign}
    (h : PutOk c q1 ex) :
    AudStatic (putMember c q1) (putMember c q1).members := by
  obtain ⟨h3, hass, hexok, hexnd, hchain, hobs⟩ := h
  have hperm := targets_put_perm hass
  have hvs : ∀ v, VarStatic c c.members v → VarStatic (putMember c q1) (putMember c q1).members v :=
    fun v hv => by
      cases v with
      | comp k => exact hv.imp_right fun h => hperm.mem_iff.mpr (List.mem_append_left _ h)
      | sig a s => exact hv
  have hvo : ∀ v, VarOk c v → VarStatic (putMember c q1) (putMember c q1).members v :=
    fun v hv => hvs v ((varStatic_iff c v).mpr hv)
  -- what the old member contributed, it contributed as a member of `c`
  have hq0 : ∀ {P : Prop}, (getMember c q1.name ∈ c.members → P) →
      (getMember c q1.name = { name := q1.name } → P) → P := fun h1 h2 =>
    (getMember_cases c q1.name).elim h1 fun h => h2 h.1
  have hmem := fun x hx => mem_put hs.names (q := q1) (x := x) hx
  have hnew : ∀ a ∈ ex, a.var ∉ targetsOf c.members ∧ a.var ∉ predefined := fun a ha =>
    ⟨fun h => (hexok a ha).2 (mem_definedVars.mpr (.inr h)), fun h => (hexok a ha).2 (mem_definedVars.mpr (.inl h))⟩
  refine ⟨?_, fun x hx => ?_, fun x hx cl hcl e he v hv => ?_, ⟨?_, fun v hv => ?_⟩, fun x hx => ?_,
    fun x hx a ha => ?_⟩
  · rw [names_put]
    split
    · exact hs.names
    · exact nodup_snoc.mpr ⟨hs.names, ‹_›⟩
  · exact (hmem x hx).elim (· ▸ h3) fun h => hs.m3 x h.1
  · rcases hmem x hx with rfl | ⟨hx, -⟩
    · rcases hchain cl hcl with hold | ⟨e', he', hok, hsig⟩
      · refine hq0 (fun hq => ?_) fun hq => by rw [hq] at hold; cases hold
        exact (hs.exVars _ hq cl hold e he v hv).imp (hvs v) fun h hsg => hobs.2.1 v (h hsg)
      · obtain rfl := Option.some.inj (he'.symm.trans he)
        exact ⟨hvo v (hok v hv), hsig v hv⟩
    · exact (hs.exVars x hx cl hcl e he v hv).imp_left (hvs v)
  · refine hperm.nodup_iff.mpr (List.nodup_append.mpr ⟨hs.targets.1, hexnd, fun x hx y hy e => ?_⟩)
    obtain ⟨a, ha, rfl⟩ := List.mem_map.mp hy
    exact (hnew a ha).1 (e ▸ hx)
  · rcases List.mem_append.mp (hperm.mem_iff.mp hv) with h | h
    · exact hs.targets.2 v h
    · obtain ⟨a, ha, rfl⟩ := List.mem_map.mp h
      exact (hnew a ha).2
  · rcases hmem x hx with rfl | ⟨hx, -⟩
    · refine ⟨hobs.1, fun v hv => (hobs.2.2 v hv).elim (fun h => ?_) (hvo v)⟩
      exact hq0 (fun hq => hvs v ((hs.obs _ hq).2 v h)) fun hq => by rw [hq] at h; cases h
    · exact (hs.obs x hx).imp_right fun h v hv => hvs v (h v hv)
  · rcases hmem x hx with rfl | ⟨hx, -⟩
    · rcases List.mem_append.mp (hass ▸ ha) with ha | ha
      · exact hq0 (fun hq => hs.assignOk _ hq a ha) fun hq => by rw [hq] at ha; cases ha
      · exact (hexok a ha).1
    · exact hs.assignOk x hx a ha

/-- the general case: a stored member that meets `PutOk` and adds at most one clause to the head of its chain -/
theorem audInv_put {c : Cfg} (hinv : AudInv c) {q1 : Member} {ex : List Assign} (h : PutOk c q1 ex)
    (hyl : (getMember c q1.name).ylabel ≠ "" → q1.ylabel ≠ "")
    (hnp : (getMember c q1.name).noplot = true → q1.noplot = true)
    (hhead : ∃ newC, chainHead q1 = chainHead (getMember c q1.name) ++ newC ∧ newC.length ≤ 1 ∧
      ∀ x ∈ newC, x ∉ canon (getMember c q1.name))
    (hne1 : canon q1 ≠ []) :
    AudInv (putMember c q1) := by
  obtain ⟨rk, hr⟩ := hinv.ranked
  obtain ⟨K, hK⟩ := exists_bound rk c.members
  have ⟨_, hass, hexok, _, hchain, hobs⟩ := h
  refine ⟨audStatic_put hinv.static h, fun m hm => ?_,
    _, ranked_put hr hK hinv.static.names hinv.nonempty hinv.static.m3 (fun x hx hne => ?_) hhead
      (uses_defined hinv.static) (fun x hx hnew => ?_) hass fun a ha => (hexok a ha).2⟩
  · exact (mem_put hinv.static.names hm).elim (· ▸ hne1) fun h => hinv.nonempty m h.1
  · -- an old clause is still there
    rcases List.mem_append.mp hx with h | h
    · obtain ⟨newC, hh, -⟩ := hhead
      exact ⟨x, List.mem_append_left _ (mem_chainHead.mp (hh ▸ List.mem_append_left _
        (mem_chainHead.mpr ⟨h, hne⟩))).1, relabel_canon hx⟩
    · rcases mem_freeOf.mp h with ⟨v, hv, rfl⟩ | ⟨rfl, hy⟩ | ⟨rfl, hn⟩
      · exact ⟨_, List.mem_append_right _ (watch_mem_freeOf.mpr (hobs.2.1 v hv)), relabel_canon hx⟩
      · exact ⟨_, List.mem_append_right _ (measures_mem_freeOf.mpr ⟨rfl, hyl hy⟩), rfl⟩
      · exact ⟨_, List.mem_append_right _ (helps_mem_freeOf.mpr (hnp hn)), rfl⟩
  · -- a new clause uses what is defined
    rcases List.mem_append.mp hx with h | h
    · obtain ⟨e, he, hu⟩ := chain_exOf h
      rcases hchain x h with h0 | ⟨e', he', hok, -⟩
      · have hc0 : x ∈ canon (getMember c q1.name) := List.mem_append_left _ h0
        exact absurd (by rw [relabel_canon hc0]; exact hc0) hnew
      · obtain rfl := Option.some.inj (he'.symm.trans he)
        exact fun v hv => hok _ (mem_compVars.mp (hu ▸ hv))
    · rcases mem_freeOf.mp h with ⟨v, hv, rfl⟩ | ⟨rfl, -⟩ | ⟨rfl, -⟩
      · rcases hobs.2.2 v hv with h0 | hok
        · have hc0 : watchClause v ∈ canon (getMember c q1.name) :=
            List.mem_append_right _ (watch_mem_freeOf.mpr h0)
          exact absurd (by rw [relabel_canon hc0]; exact hc0) hnew
        · exact uses_watch hok
      · nofun
      · nofun

theorem getMember_static {c : Cfg} (hs : AudStatic c c.members) (n : String) :
    (getMember c n).obs.Nodup ∧
    ((getMember c n).active = none → (getMember c n).assigns = [] ∧ (getMember c n).expects = none) ∧
    (∀ a ∈ (getMember c n).assigns, a.var ∈ definedVars c) := by
  rcases getMember_cases c n with hq | ⟨hq, -⟩
  · exact ⟨(hs.obs _ hq).1, hs.m3 _ hq, fun a ha => mem_definedVars.mpr (.inr (mem_targetsOf hq ha))⟩
  · rw [hq]; exact ⟨List.nodup_nil, fun _ => ⟨rfl, rfl⟩, fun _ h => nomatch h⟩

/-- `audInv_put` for a change outside the chain (`watches`, `measures`, `only helps`, an interpretation mode) -/
theorem audInv_free {c : Cfg} (hinv : AudInv c) {n : String} {q1 : Member} (hn : q1.name = n)
    (ha : q1.active = (getMember c n).active) (hs : q1.assigns = (getMember c n).assigns)
    (he : q1.expects = (getMember c n).expects)
    (hobs : q1.obs.Nodup ∧ (∀ v ∈ (getMember c n).obs, v ∈ q1.obs) ∧
      ∀ v ∈ q1.obs, v ∈ (getMember c n).obs ∨ VarOk c v)
    (hyl : (getMember c n).ylabel ≠ "" → q1.ylabel ≠ "")
    (hnp : (getMember c n).noplot = true → q1.noplot = true)
    (hne1 : canon q1 ≠ []) : AudInv (putMember c q1) := by
  subst hn
  have hch : chainOf q1 = chainOf (getMember c q1.name) := by simp only [chainOf, ha, hs, he]
  refine audInv_put hinv (ex := []) ⟨by rw [ha, hs, he]; exact (getMember_static hinv.static _).2.1,
    by simpa using hs, nofun, .nil, fun x hx => .inl (hch ▸ hx), hobs⟩ hyl hnp
    ⟨[], by simp only [chainHead, ha, hs, List.append_nil], Nat.zero_le _, fun _ h => nomatch h⟩ hne1

/-- `audInv_put` for one new chain clause `x` (`audits`, an assignment, `expects`) with expression `e` -/
theorem audInv_chain {c : Cfg} (hinv : AudInv c) {n : String} {x : AClause} {e : Ex} {q1 : Member}
    (hx : exOf x = some e) (hv : ExOk c e)
    (hn : q1.name = n) (ho : q1.obs = addSigs (getMember c n).obs e.vars)
    (hy : q1.ylabel = (getMember c n).ylabel) (hp : q1.noplot = (getMember c n).noplot)
    (h3 : q1.active = none → q1.assigns = [] ∧ q1.expects = none)
    (hass : q1.assigns = (getMember c n).assigns ++ assignsIn [x])
    (hexok : ∀ a ∈ assignsIn [x], okAssign a = true ∧ a.var ∉ definedVars c)
    (hmem : ∀ y ∈ chainOf q1, y ∈ chainOf (getMember c n) ∨ y = x)
    (hhead : chainHead q1 = chainHead (getMember c n) ++ if isExpectsC x = true then [] else [x])
    (hnew : x ∈ chainOf q1 ∧ x ∉ chainOf (getMember c n)) : AudInv (putMember c q1) := by
  subst hn
  have hnd := (getMember_static hinv.static q1.name).1
  refine audInv_put hinv ⟨h3, hass, hexok, by cases x <;> simp [assignsIn],
    fun y hy => (hmem y hy).imp_right fun (h : y = x) => ⟨e, h ▸ hx, hv, fun v hv hs => ?_⟩,
    ⟨ho ▸ nodup_addSigs _ _ hnd, fun v hv => ?_, fun v hv' => ?_⟩⟩ (hy ▸ id) (hp ▸ id)
    ⟨_, hhead, by split <;> simp, fun y hy hc => ?_⟩ fun h => ?_
  · rw [ho]; exact (mem_addSigs _ _).mpr (.inr ⟨hv, hs⟩)
  · rw [ho]; exact (mem_addSigs _ _).mpr (.inl hv)
  · rw [ho] at hv'; exact ((mem_addSigs _ _).mp hv').imp_right fun h => hv v h.1
  · split at hy
    · cases hy
    · obtain rfl := List.mem_singleton.mp hy
      rcases List.mem_append.mp hc with h | h
      · exact hnew.2 h
      · simp [(free_facts h).2.1] at hx
  · rw [(List.append_eq_nil_iff.mp h).1] at hnew; cases hnew.1

theorem audInv_pAudits {c c' : Cfg} {n : String} {e : Ex} (hinv : AudInv c)
    (h : pAudits c n e = some c') : AudInv c' := by
  obtain ⟨ha, hv, rfl⟩ := pAudits_iff.mp h
  obtain ⟨hs0, he0⟩ := (getMember_static hinv.static n).2.1 ha
  exact audInv_chain hinv (x := .audits e) rfl hv (getMember_name c n) rfl rfl rfl nofun
    (List.append_nil _).symm (fun _ h => nomatch h) (by simp [mem_chainOf, observing, hs0, he0])
    (by simp [chainHead, observing, ha, hs0, isExpectsC]) (by simp [mem_chainOf, observing, ha])

theorem audInv_pAssign {c c' : Cfg} {n : String} {a : Assign} (hinv : AudInv c)
    (hact : (getMember c n).active.isSome = true) (h : pAssign c n a = some c') : AudInv c' := by
  obtain ⟨hok, hv, hnew, rfl⟩ := pAssign_iff.mp h
  exact audInv_chain hinv (x := .assign a) rfl hv (getMember_name c n) rfl rfl rfl
    (fun h => by rw [show (getMember c n).active = none from h] at hact; cases hact) rfl
    (by simp [assignsIn, hok, hnew])
    (fun y hy => by
      rcases mem_chainOf.mp hy with h | ⟨a', ha', rfl⟩ | h
      · exact .inl (mem_chainOf.mpr (.inl h))
      · exact (List.mem_append.mp ha').imp chainOf_mem_of_assign fun h => by rw [List.mem_singleton.mp h]
      · exact .inl (mem_chainOf.mpr (.inr (.inr h))))
    (by simp [chainHead, observing, isExpectsC])
    ⟨by simp [mem_chainOf, observing], fun h => hnew ((getMember_static hinv.static n).2.2 a
      (by simpa [mem_chainOf] using h))⟩

theorem audInv_pExpects {c c' : Cfg} {n md : String} {e : Ex} (hinv : AudInv c)
    (hact : (getMember c n).active.isSome = true) (h : pExpects c n md e = some c') : AudInv c' := by
  obtain ⟨he0, hv, rfl⟩ := pExpects_iff.mp h
  exact audInv_chain hinv (x := .expects md e) rfl hv (getMember_name c n) rfl rfl rfl
    (fun h => by rw [show (getMember c n).active = none from h] at hact; cases hact) (List.append_nil _).symm (fun _ h => nomatch h)
    (by simp [mem_chainOf, observing, he0, or_assoc]) (by simp [chainHead, observing, isExpectsC])
    (by simp [mem_chainOf, observing, he0])

theorem audInv_addObs {c : Cfg} {n : String} {v : Var} (hinv : AudInv c) (hv : VarOk c v) :
    AudInv (putMember c (addObs (getMember c n) v)) := by
  have hnd := (getMember_static hinv.static n).1
  have he := addObs_eq (getMember c n) v
  refine audInv_free hinv (by rw [he]; exact getMember_name c n) (by rw [he]) (by rw [he]) (by rw [he])
    ⟨nodup_addObs v hnd, fun w hw => mem_addObs.mpr (.inl hw),
      fun w hw => (mem_addObs.mp hw).imp_right fun (h : w = v) => h ▸ hv⟩
    (by rw [he]; exact id) (by rw [he]; exact id) fun h => ?_
  have := List.mem_append_right (chainOf (addObs (getMember c n) v))
    (watch_mem_freeOf.mpr (mem_addObs.mpr (.inr rfl) : v ∈ (addObs (getMember c n) v).obs))
  rw [← canon, h] at this; cases this

theorem audInv_pHelps {c : Cfg} {n : String} (hinv : AudInv c) :
    AudInv (putMember c { (getMember c n) with noplot := true }) :=
  audInv_free hinv (getMember_name c n) rfl rfl rfl
    ⟨(getMember_static hinv.static n).1, fun _ h => h, fun _ h => .inl h⟩ id (fun _ => rfl) (by simp [canon, freeOf])

theorem audInv_pMeasures {c c' : Cfg} {n l : String} (hinv : AudInv c) (h : pMeasures c n l = some c') :
    AudInv c' := by
  obtain ⟨hl, rfl⟩ := pMeasures_iff.mp h
  exact audInv_free hinv (getMember_name c n) rfl rfl rfl
    ⟨(getMember_static hinv.static n).1, fun _ h => h, fun _ h => .inl h⟩ (fun _ => hl) id (by simp [canon, freeOf, hl])

end Shk.Printer
