import ShkModel.Model.Timeutil
/-! Helper lemmas for C18: the conversions as floor divisions, the invariant of the Timer wrapper. -/
namespace Shk.Timeutil

theorem toUnixMicros_eq_nearest (sec nsec : Int) : toUnixMicros sec nsec = nearestMicros sec nsec := by
  simp only [toUnixMicros, roundUs, nearestMicros]; omega

theorem floor_of_trunc (a b : Int) (hb : 0 < b) :
    a / b = (if a.tmod b < 0 then a.tdiv b - 1 else a.tdiv b) ∧
    a % b = (if a.tmod b < 0 then a.tmod b + b else a.tmod b) := by
  have h1 := Int.mul_tdiv_add_tmod a b
  have h2 := Int.lt_tmod_of_pos a hb
  have h3 := Int.tmod_lt_of_pos a hb
  apply (Int.ediv_emod_unique hb).mpr
  split
  · exact ⟨by rw [Int.mul_sub, Int.mul_one]; omega, by omega, by omega⟩
  · exact ⟨by omega, by omega, by omega⟩

/-- `FromUnixMicros` is the floor division of the nanosecond count by a second: `time.Unix` turns Go's truncated
quotient and remainder into the floored ones -/
theorem fromUnixMicros_eq (us : Int) :
    fromUnixMicros us = (us * 1000 / 1000000000, us * 1000 % 1000000000) := by
  obtain ⟨hq, hr⟩ := floor_of_trunc us 1000000 (by decide)
  rw [show (1000000000 : Int) = 1000000 * 1000 from rfl, Int.mul_ediv_mul_of_pos_left _ _ (by decide),
    Int.mul_comm us, Int.mul_comm 1000000, Int.mul_emod_mul_of_pos _ _ (by decide), hq, hr, fromUnixMicros]
  by_cases h : us.tmod 1000000 < 0
  · rw [if_pos h, if_pos h, if_pos (by omega), Int.mul_add, Int.mul_comm]; rfl
  · rw [if_neg h, if_neg h, if_neg (by omega), Int.mul_comm]

/-- The reachable states of the wrapper under the contract (Read is set by `recv`, i.e. after each receive): it holds no
time.Timer; or one that is armed for the latest deadline, with an empty channel; or one that has fired at or after that
deadline, the value still in the channel; or one whose value has been received.  An armed timer or a pending value is a
receive that its Reset still owes, which is why the receives never outnumber the Resets.  The pooled timers are empty. -/
inductive Inv : St → Prop
  | idle {now dl rs rc pool} : (∀ p ∈ pool, p.chan = none) → rc ≤ rs → Inv ⟨now, none, false, dl, rs, rc, pool⟩
  | armed {now dl rs rc pool} : (∀ p ∈ pool, p.chan = none) → rc < rs →
      Inv ⟨now, some ⟨some dl, none⟩, false, dl, rs, rc, pool⟩
  | fired {now dl rs rc pool v} : (∀ p ∈ pool, p.chan = none) → rc < rs → dl ≤ v →
      Inv ⟨now, some ⟨none, some v⟩, false, dl, rs, rc, pool⟩
  | received {now dl rs rc pool} : (∀ p ∈ pool, p.chan = none) → rc ≤ rs →
      Inv ⟨now, some ⟨none, none⟩, true, dl, rs, rc, pool⟩

theorem inv_init : Inv {} := .idle (by simp) (Nat.le_refl _)

theorem inv_step {s : St} (h : Inv s) (o : Op) : Inv (step s o).1 := by
  cases o with
  | tick dt =>
    cases h with
    | idle hp hc => exact .idle hp hc
    | @armed now dl _ _ _ hp hc =>
      by_cases hle : dl ≤ now + dt
      · simpa [step, fire, hle] using Inv.fired hp hc hle
      · simpa [step, fire, hle] using Inv.armed hp hc
    | fired hp hc hv => exact .fired hp hc hv
    | received hp hc => exact .received hp hc
  | reset d =>
    cases h with
    | @idle _ _ _ _ pool hp hc =>
      cases pool with
      | nil => exact .armed hp (Nat.lt_succ_of_le hc)
      | cons g rest =>
        rw [List.forall_mem_cons] at hp
        simpa [step, hp.1] using Inv.armed hp.2 (Nat.lt_succ_of_le hc)
    | armed hp hc => exact .armed hp (Nat.lt_succ_of_le (Nat.le_of_lt hc))
    | fired hp hc hv => exact .armed hp (Nat.lt_succ_of_le (Nat.le_of_lt hc))
    | received hp hc => exact .armed hp (Nat.lt_succ_of_le hc)
  | recv =>
    cases h with
    | idle hp hc => exact .idle hp hc
    | armed hp hc => exact .armed hp hc
    | fired hp hc hv => exact .received hp hc
    | received hp hc => exact .received hp hc
  | stop =>
    cases h with
    | idle hp hc => exact .idle hp hc
    | armed hp hc => exact .idle (List.forall_mem_cons.mpr ⟨rfl, hp⟩) (Nat.le_of_lt hc)
    | fired hp hc hv => exact .idle hp (Nat.le_of_lt hc)
    | received hp hc => exact .idle hp hc

theorem run_cons (s : St) (o : Op) (os : List Op) :
    run s (o :: os) = ((run (step s o).1 os).1, (step s o).2 :: (run (step s o).1 os).2) := rfl

theorem inv_run {s : St} (h : Inv s) (os : List Op) : Inv (run s os).1 := by
  induction os generalizing s with
  | nil => exact h
  | cons o os ih => exact ih (inv_step h o)

/-- the drain `<-t.C` in Reset is only reached when the channel holds a value: Reset arms the timer for
`now + d` with an empty channel -/
theorem reset_armed {s : St} (h : Inv s) (d : Nat) :
    (step s (.reset d)).2 = .ok ∧ (step s (.reset d)).1.now = s.now ∧
      (step s (.reset d)).1.timer = some ⟨some (s.now + d), none⟩ := by
  cases h with
  | @idle _ _ _ _ pool hp hc =>
    cases pool with
    | nil => exact ⟨rfl, rfl, rfl⟩
    | cons g rest => exact ⟨rfl, rfl, by simp [step, hp g]⟩
  | armed hp hc => exact ⟨rfl, rfl, rfl⟩
  | fired hp hc hv => exact ⟨rfl, rfl, rfl⟩
  | received hp hc => exact ⟨rfl, rfl, rfl⟩

theorem step_ne_blocked {s : St} (h : Inv s) (o : Op) : (step s o).2 ≠ .blocked := by
  cases o with
  | reset d => rw [(reset_armed h d).1]; exact Out.noConfusion
  | tick dt => exact Out.noConfusion
  | recv => cases h <;> exact Out.noConfusion
  | stop => cases h <;> exact Out.noConfusion

theorem run_ne_blocked {s : St} (h : Inv s) (os : List Op) : Out.blocked ∉ (run s os).2 := by
  induction os generalizing s with
  | nil => exact List.not_mem_nil
  | cons o os ih =>
    rw [run_cons, List.mem_cons, not_or]
    exact ⟨(step_ne_blocked h o).symm, ih (inv_step h o)⟩

theorem Inv.recvd_le {s : St} (h : Inv s) : s.recvd ≤ s.resets := by
  cases h with
  | idle _ hc => exact hc
  | armed _ hc => exact Nat.le_of_lt hc
  | fired _ hc => exact Nat.le_of_lt hc
  | received _ hc => exact hc

theorem Inv.pool_clean {s : St} (h : Inv s) : ∀ g ∈ s.pool, g.chan = none := by
  cases h <;> assumption

theorem Inv.armed_clean {s : St} (h : Inv s) : ∀ g, s.timer = some g → g.armed.isSome = true → g.chan = none := by
  cases h with
  | armed => rintro _ ⟨⟩ -; rfl
  | idle => nofun
  | fired | received => rintro _ ⟨⟩ h; cases h

theorem recv_got {s : St} (h : Inv s) {v : Nat} (hg : (step s .recv).2 = .got v) : s.deadline ≤ v := by
  cases h with
  | fired _ _ hv => cases hg; exact hv
  | _ => cases hg

theorem tick_recv {s : St} {dl : Nat} (ht : s.timer = some ⟨some dl, none⟩) (dt : Nat) :
    (step (step s (.tick dt)).1 .recv).2 = if dl ≤ s.now + dt then .got (s.now + dt) else .none := by
  obtain ⟨now, timer, read, deadline, resets, recvd, pool⟩ := s
  subst ht
  by_cases h : dl ≤ now + dt <;> simp [step, fire, h]

theorem stop_timer (s : St) : (step s .stop).1.timer = none := by
  simp only [step]; split <;> rfl

theorem tick_timer_none {s : St} (h : s.timer = none) (dt : Nat) : (step s (.tick dt)).1.timer = none := by
  simp [step, h]

theorem recv_none {s : St} (h : s.timer = none) : (step s .recv).2 = .none := by
  simp [step, h]

end Shk.Timeutil
