import ShkModel.Lemmas.StoryValidate
import ShkModel.Lemmas.StoryCompile
/-! C06, the clauses of the `script` section: every clause leaves a storyline the compiler accepts; without an `edit`
the storyline's columns are the union of the `storyline` clauses' columns, and the scene table is what the `scene`
clauses say. -/
namespace Shk.Story

theorem runFrom_cons (cfg : Cfg) (st : St) (cl : Clause) (rest : List Clause) :
    runFrom cfg st (cl :: rest) = (step cfg st cl).bind fun st' => runFrom cfg st' rest := by
  rw [runFrom]; cases step cfg st cl <;> rfl

theorem runFrom_append (cfg : Cfg) (l1 l2 : List Clause) (st : St) :
    runFrom cfg st (l1 ++ l2) = (runFrom cfg st l1).bind fun st' => runFrom cfg st' l2 := by
  induction l1 generalizing st with
  | nil => rfl
  | cons cl l1 ih => rw [List.cons_append, runFrom_cons, runFrom_cons, Option.bind_assoc]; simp only [ih]

theorem runFrom_single (cfg : Cfg) (st : St) (cl : Clause) : runFrom cfg st [cl] = step cfg st cl := by
  rw [runFrom_cons]; cases step cfg st cl <;> rfl

/-! ## Validation and merging yield storylines the compiler accepts -/

theorem validate_valid {tbl : Table} {text : List Char} {acts : List Act}
    (h : validate (defd tbl) text = .ok acts) : ValidStory tbl acts := by
  obtain ⟨rfl, hv⟩ := (validate_iff _ _ _).mp h
  intro a ha
  obtain ⟨hw, hc⟩ := (validAct_iff _ a).mp (hv a ha)
  exact ⟨hw, fun c hca => ⟨fun e => (mem_writtenActs ha).2.2 (e ▸ hca), hc c hca⟩⟩

theorem comb_validChars {tbl : Table} {a b : List Char} (ha : ValidChars tbl a)
    (hb : ValidChars tbl b) : ValidChars tbl (comb a b) := by
  intro x hx
  rcases mem_comb a b hx with h | h | h | h
  · exact ha x h
  · exact hb x h
  · subst h; exact ⟨by decide, .inr (.inl rfl)⟩
  · subst h; exact ⟨by decide, .inl rfl⟩

theorem combineStory_valid {tbl : Table} (s1 s2 : List Act) (h1 : ValidStory tbl s1)
    (h2 : ValidStory tbl s2) : ValidStory tbl (combineStory s1 s2) :=
  forall_mem_combineStory (fun _ _ ha hb => ⟨(comb_wf_cols ha.1 hb.1).1, comb_validChars ha.2 hb.2⟩) h1 h2

theorem upsert_mono (tbl : Table) (c : Char) (f : Spec → Spec) :
    ∀ c', (tbl c').isSome = true → (upsert tbl c f c').isSome = true := by
  intro c' h
  rw [upsert]
  split
  · rfl
  · exact h

/-! ## One clause -/

theorem selectActors_eq {cfg : Cfg} {t : Target} {r : String} {as : List String}
    (h : selectActors cfg t = some (r, as)) : as = actorsOf cfg t := by
  cases t with
  | every r' =>
    rw [selectActors, Option.ite_none_right_eq_some] at h
    cases h.2; rfl
  | actor n =>
    rw [selectActors] at h
    cases hf : cfg.cast.find? (fun a => a.1 == n) with
    | none => rw [hf] at h; cases h
    | some a => rw [hf] at h; cases h; rfl

theorem step_entails {cfg : Cfg} {st st' : St} {c : Char} {t : Target} {acts : List String}
    (h : step cfg st (.entails c t acts) = some st') :
    st'.table = (if actorsOf cfg t = [] then st.table else upsert st.table c fun sc =>
      { sc with entails := sc.entails ++ (actorsOf cfg t).map fun n => (n, acts) }) ∧
    st'.story = st.story := by
  rw [step, Option.ite_none_left_eq_some] at h
  cases hs : selectActors cfg t with
  | none => rw [hs] at h; cases h.2
  | some ra =>
    obtain ⟨r, as⟩ := ra
    rw [hs] at h
    rw [← selectActors_eq hs]
    cases as with
    | nil => cases h.2; exact ⟨rfl, rfl⟩
    | cons a as =>
      rw [if_neg (List.cons_ne_nil _ _)]
      cases (Option.ite_none_right_eq_some.mp h.2).2
      exact ⟨rfl, rfl⟩

theorem step_mood {cfg : Cfg} {st st' : St} {c : Char} {s : Bool} {m : String}
    (h : step cfg st (.mood c s m) = some st') :
    st'.table = (upsert st.table c fun sc =>
      if s then { sc with moodStart := m } else { sc with moodEnd := m }) ∧ st'.story = st.story := by
  rw [step, Option.ite_none_left_eq_some, Option.ite_none_left_eq_some] at h
  cases h.2.2
  exact ⟨rfl, rfl⟩

theorem step_storyline {cfg : Cfg} {st st' : St} {t : List Char}
    (h : step cfg st (.storyline t) = some st') :
    st'.table = st.table ∧ validate (defd st.table) t = .ok (writtenActs t) ∧
      st'.story = combineStory st.story (writtenActs t) := by
  rw [step] at h
  cases hv : validate (defd st.table) t with
  | error e => rw [hv] at h; cases h
  | ok acts =>
    rw [hv] at h; cases h
    obtain ⟨rfl, _⟩ := (validate_iff _ _ _).mp hv
    exact ⟨rfl, rfl, rfl⟩

theorem step_edit {cfg : Cfg} {st st' : St} {f : List Char → List Char}
    (h : step cfg st (.edit f) = some st') :
    st'.table = st.table ∧ validate (defd st.table) (f (joinSp st.story)) = .ok st'.story := by
  rw [step] at h
  cases hv : validate (defd st.table) (f (joinSp st.story)) with
  | error e => rw [hv] at h; cases h
  | ok acts => rw [hv] at h; cases h; exact ⟨rfl, rfl⟩

/-! ## The scene table after the clauses -/

theorem tableAfter_nil (cfg : Cfg) (t0 : Table) (c : Char) : tableAfter cfg t0 [] c = t0 c := by
  simp only [tableAfter, specDefined, specEntails, specMood, Bool.or_false, List.append_nil]
  cases t0 c <;> rfl

theorem tableAfter_mood (cfg : Cfg) (t0 : Table) (c' : Char) (s : Bool) (m : String) (rest : List Clause)
    (c : Char) :
    tableAfter cfg t0 (.mood c' s m :: rest) c =
      tableAfter cfg (upsert t0 c' fun sc => if s then { sc with moodStart := m } else { sc with moodEnd := m })
        rest c := by
  simp only [tableAfter, specDefined, specEntails, specMood, upsert]
  by_cases hc : c = c'
  · subst hc; cases s <;> simp
  · simp [hc, Ne.symm hc]

theorem tableAfter_entails (cfg : Cfg) (t0 : Table) (c' : Char) (t : Target) (acts : List String)
    (rest : List Clause) (c : Char) :
    tableAfter cfg t0 (.entails c' t acts :: rest) c =
      tableAfter cfg (if actorsOf cfg t = [] then t0 else upsert t0 c' fun sc =>
        { sc with entails := sc.entails ++ (actorsOf cfg t).map fun n => (n, acts) }) rest c := by
  simp only [tableAfter, specDefined, specEntails, specMood]
  by_cases ha : actorsOf cfg t = []
  · simp [ha]
  · by_cases hc : c = c'
    · subst hc; simp [ha, upsert]
    · simp [ha, upsert, hc, Ne.symm hc]

/-- Stated with the clauses still to come: `tableAfter` consumes them from the left (as `unionCols` does for the
storyline). -/
theorem step_table {cfg : Cfg} {st st' : St} {cl : Clause} (h : step cfg st cl = some st')
    (rest : List Clause) (c : Char) :
    tableAfter cfg st'.table rest c = tableAfter cfg st.table (cl :: rest) c := by
  cases cl with
  | storyline t => rw [(step_storyline h).1]; rfl
  | edit f => rw [(step_edit h).1]; rfl
  | mood c' s m => rw [(step_mood h).1, tableAfter_mood]
  | entails c' t acts => rw [(step_entails h).1, tableAfter_entails]

theorem runFrom_table (cfg : Cfg) {cls : List Clause} {st st' : St} (h : runFrom cfg st cls = some st')
    (c : Char) : st'.table c = tableAfter cfg st.table cls c := by
  induction cls generalizing st with
  | nil => cases h; exact (tableAfter_nil cfg _ c).symm
  | cons cl rest ih =>
    rw [runFrom_cons, Option.bind_eq_some_iff] at h
    obtain ⟨st1, h1, h⟩ := h
    rw [ih h, step_table h1]

/-! ## The storyline after the clauses -/

theorem step_story {cfg : Cfg} {st st' : St} {cl : Clause} (h : step cfg st cl = some st')
    (hv : ValidStory st.table st.story) (rest : List Clause) :
    ValidStory st'.table st'.story ∧ (noEdit (cl :: rest) = true → noEdit rest = true ∧
      unionCols (st'.story.map columns) (storyTexts rest) =
        unionCols (st.story.map columns) (storyTexts (cl :: rest))) := by
  cases cl with
  | entails c t acts =>
    rw [(step_entails h).1, (step_entails h).2]
    refine ⟨?_, fun hne => ⟨hne, rfl⟩⟩
    split
    · exact hv
    · exact hv.mono (upsert_mono _ _ _)
  | mood c s m =>
    rw [(step_mood h).1, (step_mood h).2]
    exact ⟨hv.mono (upsert_mono _ _ _), fun hne => ⟨hne, rfl⟩⟩
  | storyline t =>
    obtain ⟨ht, hval, hs⟩ := step_storyline h
    have hw := validate_valid hval
    rw [ht, hs]
    refine ⟨combineStory_valid _ _ hv hw, fun hne => ⟨hne, ?_⟩⟩
    rw [combineStory_columns (fun a ha => (hv a ha).1) fun a ha => (hw a ha).1]
    rfl
  | edit f =>
    obtain ⟨ht, hval⟩ := step_edit h
    exact ⟨ht ▸ validate_valid hval, nofun⟩

theorem runFrom_story (cfg : Cfg) {cls : List Clause} {st st' : St} (h : runFrom cfg st cls = some st')
    (hv : ValidStory st.table st.story) :
    ValidStory st'.table st'.story ∧ (noEdit cls = true →
      st'.story.map columns = unionCols (st.story.map columns) (storyTexts cls)) := by
  induction cls generalizing st with
  | nil => cases h; exact ⟨hv, fun _ => rfl⟩
  | cons cl rest ih =>
    rw [runFrom_cons, Option.bind_eq_some_iff] at h
    obtain ⟨st1, h1, h⟩ := h
    obtain ⟨hv1, hc⟩ := step_story h1 hv rest
    obtain ⟨hv', hcols⟩ := ih h hv1
    exact ⟨hv', fun hne => (hcols (hc hne).1).trans (hc hne).2⟩

end Shk.Story
