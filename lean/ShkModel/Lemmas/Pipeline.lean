import ShkModel.Model.Collect
import ShkModel.Lemmas.Spot
import ShkModel.Lemmas.AudObs
/-!
# Lemmas for C08, the composition: lines → `detectSignals` → audit loop → observations

The observations of a signal variable in the output of the audition (`rowsFor`) are the rows `rowsOf` reads off the
lines: `detectLine_key` line by line (`pipeEvs_rows`), and every round forwards its samples once and is quiet otherwise
(`forwarded_run`).  The collector then files each observation once per watcher (`file_collectAll`).
-/
namespace Shk.Spot
open Shk Shk.Aud

/-- the time of an event on the play's clock: the reception time of the line for `ts_now` -/
def timeOf (recv : Rat) : Stamp → Rat
  | .now => recv
  | .at q => q

/-- an emitted event as the audit loop receives it -/
def toEv (recv : Rat) (e : Emitted) : Ev := .sig (timeOf recv e.stamp) e.samples

/-- the audit events for the lines of one actor, each line with its reception time
(the driver's `pipelineReq` builds them the same way, inline, for the interleaved lines of several actors) -/
def pipeEvs (epoch : Rat) (sigs : List SigDef) (hasSink : String → Bool) (actor : String) :
    Lasts → List (Rat × List Char) → List Ev
  | _, [] => []
  | lasts, tl :: tls =>
    (detectLine epoch sigs hasSink actor lasts tl.2).2.map (toEv tl.1) ++
      pipeEvs epoch sigs hasSink actor (detectLine epoch sigs hasSink actor lasts tl.2).1 tls

/-- **specification of the rows** of one signal of one actor: time and value of each data point,
one per matching parsable line, in line order -/
def rowsOf (epoch : Rat) (sd : SigDef) : Rat → List (Rat × List Char) → List (Rat × Sc)
  | _, [] => []
  | last, tl :: tls =>
    ((sampleOf epoch sd last tl.2).2.toList.map fun p => (timeOf tl.1 p.stamp, p.val)) ++
      rowsOf epoch sd (sampleOf epoch sd last tl.2).1 tls

theorem rowsOf_vals (epoch : Rat) (sd : SigDef) (last : Rat) (tls : List (Rat × List Char)) :
    (rowsOf epoch sd last tls).map (·.2) = (pointsOf epoch sd last (tls.map (·.2))).map (·.val) := by
  induction tls generalizing last with
  | nil => rfl
  | cons tl tls ih =>
    simp only [rowsOf, List.map_cons, pointsOf_cons, List.map_append, ih, List.map_map]
    rfl

/-- the observation of variable `v` in an output item: time, type, value -/
def obsAt (v : VarName) : Out → Option (Rat × Typ × Val)
  | .obs ts typ w val => if w = v then some (ts, typ, val) else none
  | _ => none

/-- the observations of variable `v` in an output list -/
def rowsFor (v : VarName) (out : List Out) : List (Rat × Typ × Val) := out.filterMap (obsAt v)

theorem rowsFor_sigObs (v : VarName) (hv : v.actor ≠ "") (out : List Out) :
    rowsFor v (sigObs out) = rowsFor v out := by
  rw [rowsFor, sigObs, List.filterMap_filter]
  congr 1
  funext o
  split
  · rfl
  · rename_i h
    cases o with
    | obs ts typ w val =>
      refine (if_neg fun hw => h ?_).symm
      rw [hw]; simpa [isSigObs] using hv
    | _ => rfl

theorem rowsFor_append (v : VarName) (a b : List Out) :
    rowsFor v (a ++ b) = rowsFor v a ++ rowsFor v b :=
  List.filterMap_append

theorem fwd_eq_map (ts : Rat) (samples : List Sample)
    (h : ∀ x ∈ samples, x.val.isNil = false ∧ x.v.actor ≠ "") :
    fwd ts samples = samples.map (Sample.obs ts) := by
  unfold fwd
  rw [List.filter_eq_self.2 fun x hx => by simp [h x hx]]

theorem rowsFor_map_obs (a n : String) (ts : Rat) (ss : List Sample) :
    rowsFor ⟨a, n⟩ (ss.map (Sample.obs ts)) = (ss.filter (isKey a n)).map fun s => (ts, s.typ, s.val) := by
  induction ss with
  | nil => rfl
  | cons s ss ih =>
    rw [List.map_cons, rowsFor, List.filterMap_cons, ← rowsFor, ih, List.filter_cons]
    by_cases hk : s.v = ⟨a, n⟩ <;> simp [Sample.obs, obsAt, isKey, hk]

theorem rowsFor_events (a n : String) (recv : Rat) (evs : List Emitted)
    (hw : AllSamples (fun s => s.val.isNil = false ∧ s.v.actor ≠ "") evs) :
    rowsFor ⟨a, n⟩ ((evs.map (toEv recv)).flatMap Ev.fwd) =
      (samplesOf a n evs).map fun x => (timeOf recv x.1, x.2.typ, x.2.val) := by
  induction evs with
  | nil => rfl
  | cons e es ih =>
    rw [List.map_cons, List.flatMap_cons, rowsFor_append, ih fun e' he' => hw e' (List.mem_cons_of_mem _ he'),
      samplesOf_cons, List.map_append, List.map_map, toEv, Ev.fwd, fwd_eq_map _ _ (hw e List.mem_cons_self),
      rowsFor_map_obs]
    rfl

theorem pipeEvs_rows (epoch : Rat) (sigs : List SigDef) (hasSink : String → Bool) (actor : String)
    (hact : actor ≠ "") (sd : SigDef) (hs : hasSink sd.name = true)
    (hu : sigs.filter (fun x => x.name == sd.name) = [sd]) (lasts : Lasts)
    (tls : List (Rat × List Char)) :
    rowsFor ⟨actor, sd.name⟩ ((pipeEvs epoch sigs hasSink actor lasts tls).flatMap Ev.fwd) =
      (rowsOf epoch sd (lasts.get (actor, sd.name)) tls).map fun r => (r.1, sd.typ, Val.sc r.2) := by
  induction tls generalizing lasts with
  | nil => rfl
  | cons tl tls ih =>
    have hk := detectLine_key epoch actor lasts tl.2 hs hu
    have hw : AllSamples (fun s => s.val.isNil = false ∧ s.v.actor ≠ "")
        (detectLine epoch sigs hasSink actor lasts tl.2).2 := fun e he s hs' => by
      have := detectLine_wf epoch sigs hasSink actor lasts tl.2 e he s hs'
      exact ⟨this.1, by rw [this.2.1]; exact hact⟩
    simp only [pipeEvs, rowsOf, List.flatMap_append, rowsFor_append, List.map_append]
    rw [ih, hk.1, rowsFor_events actor sd.name tl.1 _ hw, hk.2]
    simp only [List.map_map]
    rfl

/-! ## The whole audition -/

/-- `k`: the number of events processed before an abort, if any -/
theorem forwarded_run (c : Cfg) (evs : List Ev) (tEnd : Rat) :
    ∃ k, k ≤ evs.length ∧
      (sigObs (run c evs tEnd).out).reverse = (evs.take k).flatMap Ev.fwd ∧
      ((evs.foldl (stepEv c) (start c)).abort = none → k = evs.length) := by
  obtain ⟨k, hk, ho, ha⟩ := sigObs_events c (start c) evs
  rw [sigObs_start] at ho
  -- the final round has no sample to forward
  exact ⟨k, hk, (congrArg List.reverse (sigObs_round c true tEnd [] _)).trans ho, ha⟩

theorem rowsFor_run (c : Cfg) (evs : List Ev) (tEnd : Rat) (v : VarName) (hv : v.actor ≠ "")
    (h : (evs.foldl (stepEv c) (start c)).abort = none) :
    rowsFor v (run c evs tEnd).out.reverse = rowsFor v (evs.flatMap Ev.fwd) := by
  obtain ⟨k, -, ho, ha⟩ := forwarded_run c evs tEnd
  rw [← rowsFor_sigObs v hv, sigObs, List.filter_reverse, ← sigObs, ho, ha h, List.take_length]

end Shk.Spot

/-! ## The collector's fan-out -/

namespace Shk.Collect
open Shk Shk.Aud

theorem file_append (a b : List Row) (o ac sg : String) :
    file (a ++ b) o ac sg = file a o ac sg ++ file b o ac sg := by
  simp only [file, List.filter_append, List.map_append]

theorem file_collectAll (c : Cfg) (outs : List Out) (name : String) (v : VarName) :
    file (collectAll c outs) name v.actor v.sig =
      (obsOf v outs).flatMap fun r => ((c.watchers v).filter (·.name == name)).map fun _ => r := by
  induction outs with
  | nil => rfl
  | cons o os ih =>
    rw [collectAll, List.flatMap_cons, file_append, ← collectAll, ih]
    unfold obsOf
    rw [List.filterMap_cons]
    cases o with
    | obs ts typ w val =>
      dsimp only [rowsOfObs]
      rw [file, List.filter_map, List.map_map]
      by_cases hw : w = v
      · subst hw
        rw [if_pos rfl, List.flatMap_cons]
        congr 2
        exact List.filter_congr fun m _ => by simp
      · rw [if_neg hw, List.filter_eq_nil_iff.2, List.map_nil, List.nil_append]
        intro m _ h
        simp only [Function.comp, Bool.and_eq_true, beq_iff_eq] at h
        exact hw (by cases w; cases v; simp_all)
    | _ => rfl

end Shk.Collect
