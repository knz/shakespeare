import ShkModel.Lemmas.Verdict
/-!
# C03 — exit status and foul flag (`fouls`: Go's `checkAuditViolations`) follow the interpretation rules
-/
namespace Shk.C03
open Shk.Verdict

/-- `checkAuditViolations` reports a foul exactly when an evaluation error was recorded or some
auditor that produced data has a count that its interpretation forbids: `foul upon` with a
non-zero count, or `require` with a zero count. -/
theorem verdict_iff (t : Table) (tally : String → Tally) (n : Nat) :
    fouls t tally n = true ↔
      n > 0 ∨ ∃ p ∈ t, (tally p.1).hasData = true ∧
        ((p.2.onBad = .uponNonZero ∧ (tally p.1).bad > 0) ∨ (p.2.onBad = .uponZero ∧ (tally p.1).bad = 0) ∨
         (p.2.onGood = .uponNonZero ∧ (tally p.1).good > 0) ∨ (p.2.onGood = .uponZero ∧ (tally p.1).good = 0)) := by
  simp only [fouls, Bool.or_eq_true, decide_eq_true_eq, List.any_eq_true, Bool.and_eq_true, fouledBy_atEnd,
    or_assoc]

/-- an auditor that never audited (no data) cannot foul the play, whatever its interpretation -/
theorem no_data_no_foul (t : Table) (tally : String → Tally)
    (h : ∀ p ∈ t, (tally p.1).hasData = false) : fouls t tally 0 = false := by
  simp only [fouls, Nat.lt_irrefl, decide_false, Bool.false_or]
  rw [List.any_eq_false]
  intro p hp
  simp [h p hp]

/-- a result interpreted as `ignore` never fouls, whatever its count (for both results: a silenced auditor) -/
theorem ignored_never_fouls (cnt : Nat) (atEnd : Bool) : fouledBy .ignore cnt atEnd = false := rfl

/-- later clauses override earlier ones: `interp_last_wins_from` (`Lemmas/Verdict.lean`) for a whole
configuration, read from the empty table -/
theorem interp_last_wins (ops : List Op) (t : Table) (n : String) (r : Res)
    (h : applyOps [] ops = some t) :
    modeIn t n r = lastWins n r false (defaultOf r) ops :=
  interp_last_wins_from ops [] t n r h

/-- non-vacuity: an overriding sequence with the shorthand in the middle -/
example : applyOps [] [.member "a", .set .uponZero "a" .satisfaction, .ignoreAll .satisfaction,
    .member "b", .set .uponNonZero "a" .satisfaction] =
    some [("a", { onBad := .uponNonZero, onGood := .uponNonZero }), ("b", {})] := by decide +kernel

/-- without `-S` the collector never stops the play because of a verdict -/
theorem no_early_exit_without_S (t : Table) (s : ColSt) (rs : List Report) :
    (collectAll t false s rs).2 = false := by
  induction rs generalizing s with
  | nil => rfl
  | cons r rs ih => rw [collectAll_false_cons]; exact ih _

/-- **`-S` never turns a foul into a success**: for every stream of reports, if `-S` stops the
play, the tallies at that point foul it. -/
theorem earlyExit_keeps_foul (t : Table) (s : ColSt) (rs : List Report)
    (h : (collectAll t true s rs).2 = true) :
    fouls t (collectAll t true s rs).1.tally (collectAll t true s rs).1.errors = true :=
  (stop_dooms t s rs h).1.fouls

/-- **a `-S` stop is a foul that stands**: whenever `-S` stops the play, the same reports heard to the end without
`-S` are a fouled play too — `-S` only anticipates the verdict, it never creates one (in particular it does not judge a
`require` clause before the end). -/
theorem early_stop_stands (t : Table) (s : ColSt) (rs : List Report)
    (h : (collectAll t true s rs).2 = true) :
    fouls t (collectAll t false s rs).1.tally (collectAll t false s rs).1.errors = true :=
  (stop_dooms t s rs h).2.fouls

/-- `-S` does not change what the collector records: a report moves the tallies and the error count in the same way
with and without it, so the tallies `-S` stops with are those the run without `-S` has after the same reports. -/
theorem earlyExit_prefix (t : Table) (s : ColSt) (r : Report) (b : Bool) :
    (collectReport t b s r).1.errors = (collectReport t false s r).1.errors ∧
    ∀ n, (collectReport t b s r).1.tally n = (collectReport t false s r).1.tally n :=
  ⟨rfl, fun _ => rfl⟩

theorem combine_some_left (x : Err) (b : Option Err) : (combine (some x) b).isSome = true := by
  rw [combine_isSome]; rfl

/-- whatever the four components return, in whatever order they finish, and whatever
cancellation errors overtake the audit error: if the tallies foul the play, Go's `conduct` (here
`conductErr`) returns an error (the deferred re-check), hence a non-zero exit status. -/
theorem funnel_keeps_audit (pr sp au col : Option Err) (first : Nat) (cl : Option Err) :
    exitCode (conductErr pr sp au col first true cl) = 1 := by
  rw [exitCode, conductErr, finish_isSome, Bool.or_true, Bool.true_or]; rfl

/-- a failing final cleanup is never lost -/
theorem cleanup_error_kept (pr sp au col : Option Err) (first : Nat) (v : Bool) (e : Err) :
    exitCode (conductErr pr sp au col first v (some e)) = 1 := by
  rw [exitCode, conductErr, finish_isSome, Option.isSome_some, Bool.or_true]; rfl

/-- any error that survives the four stages is never lost -/
theorem stage_error_kept (stage : Err) (v : Bool) (cl : Option Err) :
    (finish (some stage) v cl).isSome = true := by
  rw [finish_isSome]; rfl

/-- a prompter error (a non-tolerated action failed) is never lost when the prompter finishes first -/
theorem prompter_error_kept (e : Err) (sp au col : Option Err) (v : Bool) (cl : Option Err) :
    exitCode (conductErr (some e) sp au col 0 v cl) = 1 := by
  have : (stageErr (some e) sp au col 0).isSome = true := by
    simp only [stageErr, beq_self_eq_true, if_true, combine_isSome, Option.isSome_some, Bool.true_or, Bool.or_true]
  rw [exitCode, conductErr, finish_isSome, this]; rfl

/-- and success needs everything to be clean: exit status 0 means the tallies do not foul, the
final cleanup succeeded and no component error survived the stages. -/
theorem exit0_means_clean (pr sp au col : Option Err) (first : Nat) (v : Bool) (cl : Option Err)
    (h : exitCode (conductErr pr sp au col first v cl) = 0) :
    v = false ∧ cl = none ∧ stageErr pr sp au col first = none := by
  rw [exitCode_eq_zero, conductErr, finish_isSome] at h
  simp only [Bool.or_eq_false_iff, Option.isSome_eq_false_iff, Option.isNone_iff_eq_none] at h
  exact ⟨h.1.2, h.2, h.1.1⟩

/-- conversely a clean play exits with status 0 -/
theorem clean_exits_0 (pr sp au col : Option Err) (first : Nat)
    (hs : stageErr pr sp au col first = none) :
    exitCode (conductErr pr sp au col first false none) = 0 := by
  rw [exitCode_eq_zero, conductErr, finish_isSome, hs]; rfl

/-! ## from reports to the verdict: what a stream of audit reports makes of the play -/

theorem collectReport_tally_other (t : Table) (b : Bool) (s : ColSt) (r : Report) (n : String)
    (h : n ≠ r.auditor) : (collectReport t b s r).1.tally n = s.tally n :=
  if_neg h

theorem bump_keeps_data (ty : Tally) (code : Nat) (h : ty.hasData = true) : (bump ty code).hasData = true :=
  bump_hasData ty code

/-- **one disappointment report is enough**: whatever else is reported before or after it, by
anybody, a disappointment of an auditor interpreted with `foul upon … disappointment` (the
default) fouls the play. -/
theorem bad_report_fouls (t : Table) (pre post : List Report) (a : String) (i : Interp)
    (hm : (a, i) ∈ t) (hi : i.onBad = .uponNonZero) :
    fouls t (collectAll t false {} (pre ++ ⟨a, 2⟩ :: post)).1.tally
            (collectAll t false {} (pre ++ ⟨a, 2⟩ :: post)).1.errors = true := by
  rw [collectAll_false_append, collectAll_false_cons]
  refine (Doomed.run post (Or.inr ⟨(a, i), hm, ?_⟩)).fouls
  simp [collectReport, bump, hi, fouledBy]

/-- and one evaluation error is enough too -/
theorem error_report_fouls (t : Table) (pre post : List Report) (a : String) :
    fouls t (collectAll t false {} (pre ++ ⟨a, 1⟩ :: post)).1.tally
            (collectAll t false {} (pre ++ ⟨a, 1⟩ :: post)).1.errors = true := by
  rw [collectAll_false_append, collectAll_false_cons]
  exact (Doomed.run post (Or.inl (Nat.succ_pos _))).fouls

/-! ## the shutdown stages under every schedule -/

section stages
open Shk.Conduct

/-- **Whatever order the runtime lets the conductor see the components' results in** (any list,
of any length): if no component returned an error, the conductor never cancels the collector —
the reports of the final round, still in the collector's channel, are not lost, so the verdict
computed from them decides the exit status. -/
theorem normal_cascade_never_cancels_collector (arrs : List Arrival)
    (h : ∀ a ∈ arrs, a.err = false) : (conduct arrs).cancelledCollector = false :=
  conductWith_not_cancelled (P := fun l => ∀ a ∈ l, a.err = false)
    (fun own later seen l hl => Bool.eq_false_iff.mpr fun hi => by
      obtain ⟨a, ha, hae⟩ := awaitStage_interrupt_needs_error own later seen l hi
      rw [hl a ha] at hae; cases hae)
    (fun own later seen l hl a ha => hl a (awaitStage_rest_sub own later seen l a ha)) h

/-- there are 384 schedules, and in each of them every one of the four components reports exactly once -/
theorem schedules_complete : schedules.length = 384 ∧ schedules.all complete = true := by decide +kernel

/-- **the stages never block and never lose an error**: in every one of the 384 schedules the
conductor gets through all four stages (or interrupts), it returns an error exactly if some component
returned one, and it cancels the collector only then (`normal_cascade_never_cancels_collector` on these schedules). -/
theorem stages_terminate_and_keep_errors :
    schedules.all (fun arrs => !(conduct arrs).blocked &&
      ((conduct arrs).err == arrs.any (·.err)) &&
      ((conduct arrs).cancelledCollector == false || arrs.any (·.err))) = true := by decide +kernel

/-- **the pinned rule lost the final round**: prompter done, then the audition's nil result is
seen before the spotlights' nil result — a legal order, since the audition stops as soon as the
spotlights told it to — and the collector is cancelled although nothing went wrong. -/
theorem old_rule_cancels_collector_in_normal_cascade :
    (conductOld [⟨.pr, false⟩, ⟨.au, false⟩, ⟨.sp, false⟩, ⟨.col, false⟩]).cancelledCollector = true := by
  decide +kernel

/-- how many of the 24 error-free orders the pinned rule got wrong -/
theorem old_rule_wrong_orders :
    ((perms [Comp.pr, .sp, .au, .col]).filter fun o =>
      (conductOld (o.map fun c => ⟨c, false⟩)).cancelledCollector).length = 23 := by decide +kernel

/-- the same schedule under the repaired rule -/
example : (conduct [⟨.pr, false⟩, ⟨.au, false⟩, ⟨.sp, false⟩, ⟨.col, false⟩]) = ⟨false, false, false⟩ := by decide +kernel
/-- and a genuine failure still interrupts -/
example : (conduct [⟨.au, true⟩, ⟨.pr, false⟩, ⟨.sp, false⟩, ⟨.col, false⟩]) = ⟨true, true, false⟩ := by decide +kernel

end stages

end Shk.C03
