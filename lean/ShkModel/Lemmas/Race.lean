import ShkModel.Model.Race
/-! Lemmas for C14: what the checker's graph functions (`single`, `under`, `cannotReach`, `settled`) mean for the thread
instances of an execution; the happens-before consequences of the `pre` / `post` / `sep` facts, of a common lock, of the
`perInstance` family conditions and of a channel hand-over; and from these `checkLoc_sound`: a location that passes
`checkLoc` has no two conflicting accesses unordered. -/
namespace Shk.Race

variable {T : Table} {pol : Nat → Option Discipline}

theorem hb_lt {tr : Trace} {i j : Nat} (h : HB tr i j) : i < j := by
  induction h with
  | po _ _ h => exact h
  | fork _ _ h => exact h
  | join _ _ h => exact h
  | lock _ _ _ _ h => exact h
  | chan _ _ h => exact h
  | trans _ _ ih₁ ih₂ => exact Nat.lt_trans ih₁ ih₂

theorem At.inj {tr : Trace} {i : Nat} {t u : Tid} {a b : Act} (h₁ : At tr i t a) (h₂ : At tr i u b) :
    t = u ∧ a = b := by
  unfold At at h₁ h₂
  rw [h₁] at h₂
  cases h₂
  exact ⟨rfl, rfl⟩

theorem parents_lt {r p : Nat} (h : p ∈ T.parents r) : r < T.roots.length := by
  unfold Table.parents at h
  cases hR : T.roots[r]? with
  | none => rw [hR] at h; cases h
  | some R => exact (List.getElem?_eq_some_iff.mp hR).1

variable (ex : Exec T pol) {i j k : Nat} {t u w c c₀ : Tid} {x y : Access} {o o' : Nat}

theorem active_parent {p : Tid} (h : ex.par u = some p) : Active ex.tr p :=
  let ⟨k, hk⟩ := ex.forkExists u p h
  ⟨k, _, hk⟩

theorem parent_of {r : Nat} (hau : Active ex.tr u) (hu : ex.rootOf u = r) (hr : r ≠ 0) :
    ∃ p, ex.par u = some p ∧ Active ex.tr p ∧ ex.rootOf p ∈ T.parents r := by
  obtain ⟨p, hp⟩ := ex.hasParent u hau (hu ▸ hr)
  exact ⟨p, hp, active_parent ex hp, hu ▸ ex.parTyped u p hp⟩

theorem single_succ {f r : Nat} (hr : r ≠ 0) (h : single T (f + 1) r = true) :
    ∃ R p, T.roots[r]? = some R ∧ R.once = true ∧ R.multi = false ∧ R.parents = [p] ∧ single T f p = true := by
  rw [single, beq_false_of_ne hr, Bool.false_or] at h
  split at h
  · next R hR =>
    rw [Bool.and_eq_true, Bool.and_eq_true, Bool.not_eq_true'] at h
    split at h
    · next p hps => exact ⟨R, p, hR, h.1.1, h.1.2, hps, h.2⟩
    · exact absurd h.2 Bool.false_ne_true
  · exact absurd h Bool.false_ne_true

theorem single_sound : ∀ (f r : Nat), single T f r = true →
    ∀ t u, Active ex.tr t → Active ex.tr u → ex.rootOf t = r → ex.rootOf u = r → t = u := by
  intro f
  induction f with
  | zero => intro r h; exact absurd h Bool.false_ne_true
  | succ f ih =>
    intro r h t u hat hau ht hu
    by_cases hr : r = 0
    · subst hr; exact ex.mainUnique t u hat hau ht hu
    · obtain ⟨R, p, hR, ho, hm, hps, hp⟩ := single_succ hr h
      obtain ⟨pt, hpt, hapt, h1⟩ := parent_of ex hat ht hr
      obtain ⟨pu, hpu, hapu, h2⟩ := parent_of ex hau hu hr
      simp only [Table.parents, hR, hps, List.mem_singleton] at h1 h2
      obtain rfl := ih p hp pt pu hapt hapu h1 h2
      exact ex.onceSem t u pt R hpt hpu (ht.trans hu.symm) (ht ▸ hR) ho hm

theorem single_thread {r : Nat}
    (hi : At ex.tr i t (.acc x o)) (hj : At ex.tr j u (.acc y o')) (hs : single T T.roots.length r = true)
    (hx : x.root = r) (hy : y.root = r) : t = u :=
  single_sound ex _ _ hs t u ⟨i, _, hi⟩ ⟨j, _, hj⟩ ((ex.typed i t x o hi).2.symm.trans hx)
    ((ex.typed j u y o' hj).2.symm.trans hy)

theorem under_sound (w : Nat) : ∀ (f r : Nat), under T w f r = true →
    ∀ u, Active ex.tr u → ex.rootOf u = r → ∃ t, ex.rootOf t = w ∧ Anc ex.par u t := by
  intro f
  induction f with
  | zero => intro r h; exact absurd h Bool.false_ne_true
  | succ f ih =>
    intro r h u hau hu
    simp only [under, Bool.and_eq_true, bne_iff_ne, ne_eq, List.all_eq_true, Bool.or_eq_true, beq_iff_eq] at h
    obtain ⟨p, hp, hap, hpt⟩ := parent_of ex hau hu h.1
    rcases h.2 _ hpt with h | h
    · exact ⟨p, h, .base hp⟩
    · obtain ⟨t, ht, ha⟩ := ih _ h p hap rfl
      exact ⟨t, ht, .step hp ha⟩

theorem anc_first {par : Tid → Option Tid} {u t : Tid} (h : Anc par u t) :
    ∃ c, par c = some t ∧ (u = c ∨ Anc par u c) := by
  induction h with
  | base hp => exact ⟨_, hp, Or.inl rfl⟩
  | step hp _ ih =>
    obtain ⟨c, hc, h⟩ := ih
    exact ⟨c, hc, .inr (h.elim (· ▸ .base hp) (.step hp))⟩

theorem anc_parent {par : Tid → Option Tid} {u t : Tid} (h : Anc par u t) :
    ∃ p, par u = some p ∧ (p = t ∨ Anc par p t) := by
  cases h with
  | base hp => exact ⟨_, hp, .inl rfl⟩
  | step hp h => exact ⟨_, hp, .inr h⟩

theorem cannotReach_sound (c : Nat) : ∀ (f r : Nat), cannotReach T c f r = true →
    ∀ u c₀, ex.rootOf u = r → ex.rootOf c₀ = c → ¬ (u = c₀ ∨ Anc ex.par u c₀) := by
  intro f
  induction f with
  | zero => intro r h; exact absurd h Bool.false_ne_true
  | succ f ih =>
    intro r h u c₀ hu hc
    simp only [cannotReach, Bool.and_eq_true, bne_iff_ne, ne_eq, List.all_eq_true] at h
    rintro (rfl | ha)
    · exact h.1 (hu.symm.trans hc)
    · obtain ⟨p, hp, hpc⟩ := anc_parent ha
      exact ih _ (h.2 _ (hu ▸ ex.parTyped u p hp)) p c₀ rfl hc hpc

theorem before_fork {a : Act}
    (hi : At ex.tr i t a) (hk : At ex.tr k t (.fork c)) (hik : i < k) :
    ∀ u, (u = c ∨ Anc ex.par u c) → ∀ j b, At ex.tr j u b → HB ex.tr i j := by
  have hc : ∀ j b, At ex.tr j c b → HB ex.tr i j := fun j b hj =>
    .trans (.po hi hk hik) (.fork hk hj (ex.forkFirst k t c j b hk hj))
  have down {u p : Tid} (hp : ex.par u = some p) (hq : ∀ j b, At ex.tr j p b → HB ex.tr i j) :
      ∀ j b, At ex.tr j u b → HB ex.tr i j := fun j b hj =>
    let ⟨k', hk'⟩ := ex.forkExists _ _ hp
    .trans (hq k' _ hk') (.fork hk' hj (ex.forkFirst _ _ _ _ _ hk' hj))
  rintro u (rfl | ha)
  · exact hc
  · induction ha with
    | base hp => exact down hp hc
    | step hp _ ih => exact down hp (ih hk hc)

theorem settled_sound (c : Nat) : ∀ (f r : Nat), settled T c f r = true →
    ∀ u c₀ d, ex.rootOf u = r → ex.rootOf c₀ = c → (u = c₀ ∨ Anc ex.par u c₀) →
      At ex.tr d c₀ .done → ∃ du, At ex.tr du u .done ∧ (du = d ∨ HB ex.tr du d) := by
  intro f
  induction f with
  | zero => intro r h; exact absurd h Bool.false_ne_true
  | succ f ih =>
    intro r h u c₀ d hu hc hd hdone
    rcases hd with rfl | ha
    · exact ⟨d, hdone, Or.inl rfl⟩
    · simp only [settled, List.all_eq_true, Bool.or_eq_true, Bool.and_eq_true] at h
      obtain ⟨p, hp, hpc⟩ := anc_parent ha
      rcases h _ (hu ▸ ex.parTyped u p hp) with hno | ⟨hj, hs⟩
      · exact absurd hpc (cannotReach_sound ex c _ _ hno p c₀ rfl hc)
      · obtain ⟨dp, hdp, hord⟩ := ih _ hs p c₀ d rfl hc hpc hdone
        -- `u` is joined by its parent before the parent's end signal
        rw [jbd] at hj
        split at hj
        · next R hR =>
          rw [Bool.and_eq_true, List.contains_iff_mem] at hj
          obtain ⟨k, hk, hjoin⟩ := ex.jbdSem u p R dp hp (hu ▸ hR) hj.1 hj.2 hdp
          obtain ⟨du, hdu, hdone'⟩ := ex.joinObs k p u hjoin
          have h1 : HB ex.tr du dp := .trans (.join hdone' hjoin hdu) (.po hjoin hdp hk)
          exact ⟨du, hdone', .inr (hord.elim (· ▸ h1) (.trans h1))⟩
        · exact absurd hj Bool.false_ne_true

theorem done_before {a : Act}
    (hi : At ex.tr i t a) (hk : At ex.tr k t (.join c)) (hki : k < i) : ∃ d, At ex.tr d c .done ∧ HB ex.tr d i :=
  let ⟨d, hdk, hd⟩ := ex.joinObs k t c hk
  ⟨d, hd, .trans (.join hd hk hdk) (.po hk hi hki)⟩

theorem after_join_child {a : Act}
    (hi : At ex.tr i t a) (hk : At ex.tr k t (.join c)) (hki : k < i)
    (hj : At ex.tr j c (.acc y o)) (hpre : y.preDone = true) : HB ex.tr j i :=
  let ⟨d, hd, h⟩ := done_before ex hi hk hki
  .trans (.po hj hd (ex.preDoneSem j c y o d hj hpre hd)) h

theorem after_join {a : Act}
    (hi : At ex.tr i t a) (hk : At ex.tr k t (.join c₀)) (hki : k < i)
    (hj : At ex.tr j u (.acc y o)) (hpre : y.preDone = true)
    (hu : u = c₀ ∨ Anc ex.par u c₀) (hs : settled T (ex.rootOf c₀) T.roots.length (ex.rootOf u) = true) :
    HB ex.tr j i := by
  obtain ⟨d, hd, h2⟩ := done_before ex hi hk hki
  obtain ⟨du, hdu, hord⟩ := settled_sound ex _ _ _ hs u c₀ d rfl rfl hu hd
  have h1 : HB ex.tr j du := .po hj hdu (ex.preDoneSem j u y o du hj hpre hdu)
  rcases hord with rfl | h
  · exact .trans h1 h2
  · exact .trans h1 (.trans h h2)

/-- `relSem` against a thread at or below the child: before the fork everything below is ordered; after the join only
what the caller (`hafter`) shows to precede the child's end signal. -/
theorem rel_ordered {b : Act}
    (hi : At ex.tr i t (.acc x o)) (hc : ex.par c = some t) (hmid : x.relTo (ex.rootOf c) ≠ .mid)
    (hu : u = c ∨ Anc ex.par u c) (hj : At ex.tr j u b)
    (hafter : x.relTo (ex.rootOf c) ≠ .pre → ∀ k, k < i → At ex.tr k t (.join c) → HB ex.tr j i) :
    HB ex.tr i j ∨ HB ex.tr j i := by
  obtain ⟨kf, hkf⟩ := ex.forkExists c t hc
  have pre (h : ∀ k, At ex.tr k t (.fork c) → i < k) : HB ex.tr i j ∨ HB ex.tr j i :=
    .inl (before_fork ex hi hkf (h kf hkf) u hu j b hj)
  have hsem := ex.relSem i t x o c hi hc
  generalize x.relTo (ex.rootOf c) = r at hsem hmid hafter
  cases r with
  | pre => exact pre hsem
  | mid => exact absurd rfl hmid
  | post =>
    obtain ⟨k, hki, hk⟩ := hsem
    exact .inr (hafter nofun k hki hk)
  | sep =>
    rcases hsem with h | ⟨k, hki, hk⟩
    · exact pre h
    · exact .inr (hafter nofun k hki hk)

theorem downOk_sound
    (hi : At ex.tr i t (.acc x o)) (hj : At ex.tr j u (.acc y o'))
    (h : downOk T x y = true) : HB ex.tr i j ∨ HB ex.tr j i := by
  have hx := (ex.typed i t x o hi).2
  have hy := (ex.typed j u y o' hj).2
  simp only [downOk, Bool.and_eq_true, List.all_eq_true, List.mem_range, Bool.or_eq_true,
    Bool.not_eq_true'] at h
  obtain ⟨⟨hs, hu⟩, hall⟩ := h
  obtain ⟨t', ht', ha⟩ := under_sound ex _ _ _ hu u ⟨j, _, hj⟩ hy.symm
  obtain ⟨c, hc, hdesc⟩ := anc_first ha
  obtain rfl : t' = t := single_sound ex _ _ hs t' t (active_parent ex hc) ⟨i, _, hi⟩ ht' hx.symm
  have hpt := ex.parTyped c t' hc
  rcases hall _ (parents_lt hpt) with (hnc | hno) | hrel
  · rw [isChildOf, hx, List.contains_iff_mem.mpr hpt] at hnc
    cases hnc
  · exact absurd hdesc (cannotReach_sound ex _ _ _ hno u c hy.symm rfl)
  · have hr : x.relTo (ex.rootOf c) ≠ .mid ∧ (x.relTo (ex.rootOf c) ≠ .pre →
        y.preDone = true ∧ settled T (ex.rootOf c) T.roots.length y.root = true) := by
      revert hrel
      cases x.relTo (ex.rootOf c) <;> simp
    exact rel_ordered ex hi hc hr.1 hdesc hj fun hnp k hki hk =>
      after_join ex hi hk hki hj (hr.2 hnp).1 hdesc (hy ▸ (hr.2 hnp).2)

theorem lock_ordered {tr : Trace} {m : Nat}
    (hi : At tr i t (.acc x o)) (hj : At tr j u (.acc y o')) (hm : m ∈ x.locks) (hm' : m ∈ y.locks) :
    t = u ∨ HB tr i j ∨ HB tr j i := by
  rcases Nat.lt_trichotomy i j with hlt | rfl | hlt
  · exact .inr (.inl (.lock hi hj hm hm' hlt))
  · exact .inl (At.inj hi hj).1
  · exact .inr (.inr (.lock hj hi hm' hm hlt))

theorem pairOk_sound
    (hi : At ex.tr i t (.acc x o)) (hj : At ex.tr j u (.acc y o'))
    (h : pairOk T x y = true) :
    (x.atomic = true ∧ y.atomic = true) ∨ t = u ∨ HB ex.tr i j ∨ HB ex.tr j i := by
  simp only [pairOk, Bool.or_eq_true, Bool.and_eq_true, beq_iff_eq] at h
  rcases h with (((h | h) | h) | h) | h
  · exact .inl h
  · simp only [commonLock, List.any_eq_true, List.contains_iff_mem] at h
    obtain ⟨m, hm, hm'⟩ := h
    exact .inr (lock_ordered hi hj hm hm')
  · exact .inr (.inl (single_thread ex hi hj h.2 rfl h.1.symm))
  · exact .inr (.inr (downOk_sound ex hi hj h))
  · exact .inr (.inr (downOk_sound ex hj hi h).symm)

theorem mem_accsAt (hg : groupsOk T = true) {a : Access} {l : Nat} (h : a ∈ T.accs) (hl : a.loc = l) :
    a ∈ accsAt T l ∧ l < T.nlocs := by
  simp only [Table.accs, List.mem_flatten] at h
  obtain ⟨g, hg', ha⟩ := h
  obtain ⟨k, hk, rfl⟩ := List.getElem_of_mem hg'
  simp only [groupsOk, List.all_eq_true, List.mem_range, beq_iff_eq] at hg
  have hat : accsAt T k = T.groups[k] := by
    rw [accsAt, List.getElem?_eq_getElem hk]; rfl
  obtain rfl := (hg k hk a (hat ▸ ha)).symm.trans hl
  exact ⟨hat ▸ ha, hk⟩

theorem typed_accsAt (hg : groupsOk T = true) {a : Access} {l : Nat}
    (hi : At ex.tr i t (.acc a o)) (hl : a.loc = l) : a ∈ accsAt T l :=
  (mem_accsAt hg (ex.typed i t a o hi).1 hl).1

/-- the conjuncts of `famOk`, in its order, without the clause that a kid's root has parents and all of them are owners,
which the proofs do not use -/
theorem famOk_spec {l : Nat} {owners : List Nat} (hf : famOk T l owners = true) :
    (∀ o ∈ owners, ∀ p ∈ T.parents o, p ∉ owners) ∧
    (∀ a ∈ accsAt T l, a.root ∉ owners → ∀ b ∈ accsAt T l, b.root ∉ owners →
      a.root = b.root ∨ ∀ p ∈ T.parents a.root, p ∉ T.parents b.root) ∧
    (∀ y ∈ accsAt T l, y.root ∉ owners → y.preDone = true ∧
      ∃ R, T.roots[y.root]? = some R ∧ R.joined = true ∧ R.multi = false) ∧
    (∀ x ∈ accsAt T l, x.root ∈ owners → ∀ y ∈ accsAt T l, y.root ∉ owners → x.relTo y.root ≠ .mid) := by
  simp only [famOk, Bool.and_eq_true, List.all_eq_true, List.mem_filter, Bool.not_eq_true', Bool.or_eq_true,
    and_imp, beq_iff_eq, List.contains_eq_mem, decide_eq_false_iff_not, bne_iff_ne, ne_eq] at hf
  obtain ⟨⟨⟨hown, hsame⟩, hkid⟩, hrel⟩ := hf
  refine ⟨hown, hsame, fun y hy hyo => ⟨(hkid y hy hyo).1, ?_⟩, fun x hx hxo => (hrel x hx).resolve_left (· hxo)⟩
  have := (hkid y hy hyo).2
  cases hR : T.roots[y.root]? with
  | none => rw [hR] at this; cases this
  | some R =>
    simp only [hR, Bool.and_eq_true, Bool.not_eq_true'] at this
    exact ⟨R, rfl, this.1.1.1, this.1.1.2⟩

theorem fam_kid {owners : List Nat} (hown : ∀ o ∈ owners, ∀ p ∈ T.parents o, p ∉ owners)
    (hy : y.root = ex.rootOf u) (hp : ex.par u = some w) (hw : ex.rootOf w ∈ owners) :
    y.root ∉ owners :=
  fun h => hown _ h _ (hy ▸ ex.parTyped u w hp) hw

theorem fam_parent_child (hg : groupsOk T = true) {l : Nat} {owners : List Nat} (hf : famOk T l owners = true)
    (hi : At ex.tr i w (.acc x o)) (hj : At ex.tr j u (.acc y o'))
    (hxl : x.loc = l) (hyl : y.loc = l) (hw : ex.rootOf w ∈ owners) (hp : ex.par u = some w) :
    HB ex.tr i j ∨ HB ex.tr j i := by
  obtain ⟨hown, -, hkid, hrel⟩ := famOk_spec hf
  have hx := (ex.typed i w x o hi).2
  have hy := (ex.typed j u y o' hj).2
  have hym := typed_accsAt ex hg hj hyl
  have hyo := fam_kid ex hown hy hp hw
  exact rel_ordered ex hi hp (hy ▸ hrel x (typed_accsAt ex hg hi hxl) (hx ▸ hw) y hym hyo) (.inl rfl) hj
    fun _ k hki hk => after_join_child ex hi hk hki hj (hkid y hym hyo).1

theorem fam_siblings (hg : groupsOk T = true) {l : Nat} {owners : List Nat} (hf : famOk T l owners = true)
    (hi : At ex.tr i t (.acc x o)) (hj : At ex.tr j u (.acc y o'))
    (hxl : x.loc = l) (hyl : y.loc = l) (hw : ex.rootOf w ∈ owners)
    (hpt : ex.par t = some w) (hpu : ex.par u = some w) (htu : t ≠ u) :
    HB ex.tr i j ∨ HB ex.tr j i := by
  obtain ⟨hown, hsame, hkid, -⟩ := famOk_spec hf
  have hx := (ex.typed i t x o hi).2
  have hy := (ex.typed j u y o' hj).2
  have hxm := typed_accsAt ex hg hi hxl
  have hym := typed_accsAt ex hg hj hyl
  have hxo := fam_kid ex hown hx hpt hw
  have hyo := fam_kid ex hown hy hpu hw
  -- they share the parent's root, so they are of one root
  have hroot : ex.rootOf t = ex.rootOf u := by
    rw [← hx, ← hy]
    exact (hsame x hxm hxo y hym hyo).resolve_right
      fun h => h _ (hx ▸ ex.parTyped t w hpt) (hy ▸ ex.parTyped u w hpu)
  obtain ⟨R, hR, hjn, hmu⟩ := (hkid x hxm hxo).2
  -- one is joined before the other is forked
  rcases ex.seqSem t u w R htu hpt hpu hroot (hx ▸ hR) hjn hmu with ⟨k, k', hk, hk', hlt⟩ | ⟨k, k', hk, hk', hlt⟩
  · exact .inl (.trans (after_join_child ex hk' hk hlt hi (hkid x hxm hxo).1)
      (.fork hk' hj (ex.forkFirst _ _ _ _ _ hk' hj)))
  · exact .inr (.trans (after_join_child ex hk' hk hlt hj (hkid y hym hyo).1)
      (.fork hk' hi (ex.forkFirst _ _ _ _ _ hk' hi)))

theorem orderedLoc_sound {l : Nat} {a b : Access} (ho : orderedLoc T l = true)
    (hma : a ∈ accsAt T l) (hmb : b ∈ accsAt T l) (hi : At ex.tr i t (.acc a o)) (hj : At ex.tr j u (.acc b o'))
    (hw : a.write = true ∨ b.write = true) (htu : t ≠ u) :
    (a.atomic = true ∧ b.atomic = true) ∨ HB ex.tr i j ∨ HB ex.tr j i := by
  simp only [orderedLoc, List.all_eq_true, Bool.or_eq_true, Bool.not_eq_true', Bool.or_eq_false_iff] at ho
  rcases ho a hma b hmb with hnw | hp
  · rcases hw with hw | hw
    · rw [hnw.1] at hw; cases hw
    · rw [hnw.2] at hw; cases hw
  · exact (pairOk_sound ex hi hj hp).imp_right (·.resolve_left htu)

theorem message_ordered (hstw : stwOk T pol = true) {a b : Access} (hpol : pol a.loc = some .message)
    (hi : At ex.tr i t (.acc a o)) (hj : At ex.tr j u (.acc b o)) (hloc : a.loc = b.loc)
    (hw : a.write = true ∨ b.write = true) (htu : t ≠ u) : HB ex.tr i j ∨ HB ex.tr j i := by
  -- a message location is not on the sent-then-written list, so a sender has written before it sends
  have notListed : a.loc ∉ T.sentThenWritten := by
    intro hin
    have := List.all_eq_true.mp hstw a.loc hin
    rw [hpol] at this
    cases this
  have wBefore {i k : Nat} {t : Tid} {x : Access} (hx : At ex.tr i t (.acc x o)) (hl : x.loc = a.loc)
      (hk : At ex.tr k t (.send o)) (hrd : x.write = false → i < k) : i < k := by
    cases hwx : x.write with
    | false => exact hrd hwx
    | true => exact (ex.sendSem i k t x o hx hwx hk).resolve_left (hl ▸ notListed)
  rcases ex.msgSem i j t u a b o hi hj hloc hpol htu hw with
    ⟨k, k', hk, hk', hlt, hkj, hrd⟩ | ⟨k, k', hk, hk', hlt, hki, hrd⟩
  · exact .inl (.trans (.po hi hk (wBefore hi rfl hk hrd)) (.trans (.chan hk hk' hlt) (.po hk' hj hkj)))
  · exact .inr (.trans (.po hj hk (wBefore hj hloc.symm hk hrd)) (.trans (.chan hk hk' hlt) (.po hk' hi hki)))

theorem checkLoc_sound (hg : groupsOk T = true) (hstw : stwOk T pol = true)
    {a b : Access} (hc : checkLoc T pol a.loc = true)
    (hi : At ex.tr i t (.acc a o)) (hj : At ex.tr j u (.acc b o)) (hloc : a.loc = b.loc)
    (hw : a.write = true ∨ b.write = true) (htu : t ≠ u) :
    (a.atomic = true ∧ b.atomic = true) ∨ HB ex.tr i j ∨ HB ex.tr j i := by
  have hma := typed_accsAt ex hg hi rfl
  have hmb := typed_accsAt ex hg hj hloc.symm
  unfold checkLoc at hc
  cases hpol : pol a.loc with
  | none =>
    rw [hpol] at hc
    match hacc : accsAt T a.loc, hc with
    | [], _ => rw [hacc] at hma; cases hma
    | x :: xs, hc =>
      simp only [Bool.and_eq_true, List.all_eq_true, beq_iff_eq] at hc
      have hroot (z : Access) (hz : z ∈ accsAt T a.loc) : z.root = x.root := by
        rw [hacc] at hz
        rcases List.mem_cons.mp hz with rfl | hz
        · rfl
        · exact hc.2 z hz
      exact absurd (single_thread ex hi hj hc.1 (hroot a hma) (hroot b hmb)) htu
  | some d =>
    rw [hpol] at hc
    cases d with
    | atomic =>
      simp only [List.all_eq_true] at hc
      exact .inl ⟨hc a hma, hc b hmb⟩
    | locked m =>
      simp only [List.all_eq_true, List.contains_iff_mem] at hc
      exact .inr ((lock_ordered hi hj (hc a hma) (hc b hmb)).resolve_left htu)
    | confined r =>
      simp only [Bool.and_eq_true, List.all_eq_true, beq_iff_eq] at hc
      exact absurd (single_thread ex hi hj hc.1 (hc.2 a hma) (hc.2 b hmb)) htu
    | initThenReadOnly w => exact orderedLoc_sound ex (Bool.and_eq_true_iff.mp hc).2 hma hmb hi hj hw htu
    | handoff => exact orderedLoc_sound ex hc hma hmb hi hj hw htu
    | perInstance owners =>
      obtain ⟨w, hwo, ht, hu⟩ := ex.own i j t u a b o owners hi hj hloc hpol
      rcases ht with rfl | ht <;> rcases hu with rfl | hu
      · exact absurd rfl htu
      · exact .inr (fam_parent_child ex hg hc hi hj rfl hloc.symm hwo hu)
      · exact .inr (fam_parent_child ex hg hc hj hi hloc.symm rfl hwo ht).symm
      · exact .inr (fam_siblings ex hg hc hi hj rfl hloc.symm hwo ht hu htu)
    | message => exact .inr (message_ordered ex hstw hpol hi hj hloc hw htu)

end Shk.Race
