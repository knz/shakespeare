import ShkModel.Lemmas.PrinterMember
/-! Lemmas for C10: the order in which `printCfg` emits the audience clauses (`sched`) is a
sequence (`Run`) of single emissions, each allowed at its time.  `PInv` ties what is pending to the
members; when the clauses admit a ranking (`Ranked`), the pending clause of least rank can always be
emitted (`exists_emits`), so `sched` stops only when nothing is left (`sched_run`). -/
namespace Shk.Printer

/-- One clause is printed: it belongs to a member all of whose predecessors have been
mentioned, it is the first of the member's auditor clauses or any of its other clauses, and the
variables it uses are defined. -/
inductive Emits : List String → List Pend → String → AClause → List String → List Pend → Prop
  | chain (undef : List String) (pre : List Pend) (p : Pend) (post : List Pend) (c : AClause)
      (rest : List AClause) :
      (∀ q ∈ pre, q.mentioned = true) → p.chain = c :: rest → ready undef c = true →
      Emits undef (pre ++ p :: post) p.name c (afterPrint undef c)
        (pre ++ ⟨p.name, rest, p.free, true⟩ :: post)
  | free (undef : List String) (pre : List Pend) (p : Pend) (post : List Pend) (f1 : List AClause)
      (c : AClause) (f2 : List AClause) :
      (∀ q ∈ pre, q.mentioned = true) → p.free = f1 ++ c :: f2 → ready undef c = true →
      defines c = none →
      Emits undef (pre ++ p :: post) p.name c undef
        (pre ++ ⟨p.name, p.chain, f1 ++ f2, true⟩ :: post)

/-- a sequence of emissions -/
inductive Run : List String → List Pend → List (String × AClause) → List String → List Pend → Prop
  | nil (u : List String) (ps : List Pend) : Run u ps [] u ps
  | cons {u ps n c u1 ps1 o u2 ps2} : Emits u ps n c u1 ps1 → Run u1 ps1 o u2 ps2 →
      Run u ps ((n, c) :: o) u2 ps2

theorem Run.append {u ps o1 u1 ps1 o2 u2 ps2} (h1 : Run u ps o1 u1 ps1) (h2 : Run u1 ps1 o2 u2 ps2) :
    Run u ps (o1 ++ o2) u2 ps2 := by
  induction h1 with
  | nil => exact h2
  | cons he _ ih => exact Run.cons he (ih h2)

theorem Run.single {u ps n c u1 ps1} (h : Emits u ps n c u1 ps1) : Run u ps [(n, c)] u1 ps1 :=
  Run.cons h (Run.nil _ _)

theorem takeChain_run (pre post : List Pend) (hpre : ∀ q ∈ pre, q.mentioned = true)
    (n : String) (fr : List AClause) :
    ∀ (ch : List AClause) (undef : List String) (b : Bool),
      Run undef (pre ++ ⟨n, ch, fr, b⟩ :: post)
        ((takeChain undef ch).1.map fun c => (n, c))
        (takeChain undef ch).2.2
        (pre ++ ⟨n, (takeChain undef ch).2.1, fr, b || !(takeChain undef ch).1.isEmpty⟩ :: post)
  | [], undef, b => by simpa [takeChain] using Run.nil _ _
  | c :: cs, undef, b => by
    by_cases hr : ready undef c = true
    · simpa [takeChain, hr] using
        Run.cons (Emits.chain undef pre ⟨n, c :: cs, fr, b⟩ post c cs hpre rfl hr)
          (takeChain_run pre post hpre n fr cs (afterPrint undef c) true)
    · simpa [takeChain, hr] using Run.nil _ _

/-- the other clauses: `done` was looked at and has to wait, `todo` is still to be looked at -/
theorem free_run (pre post : List Pend) (hpre : ∀ q ∈ pre, q.mentioned = true)
    (n : String) (ch : List AClause) (u : List String) :
    ∀ (todo done : List AClause) (b : Bool), (∀ c ∈ todo, defines c = none) →
      Run u (pre ++ ⟨n, ch, done ++ todo, b⟩ :: post)
        ((todo.filter (ready u)).map fun c => (n, c)) u
        (pre ++ ⟨n, ch, done ++ todo.filter (fun c => !ready u c),
                 b || !(todo.filter (ready u)).isEmpty⟩ :: post)
  | [], done, b, _ => by simpa using Run.nil _ _
  | c :: cs, done, b, hd => by
    have hd' : ∀ x ∈ cs, defines x = none := fun x hx => hd x (List.mem_cons_of_mem _ hx)
    by_cases hr : ready u c = true
    · simpa [List.filter_cons, hr] using
        Run.cons (Emits.free u pre ⟨n, ch, done ++ c :: cs, b⟩ post done c cs hpre rfl hr
          (hd c List.mem_cons_self)) (free_run pre post hpre n ch u cs done true hd')
    · simpa [List.filter_cons, hr] using free_run pre post hpre n ch u cs (done ++ [c]) b hd'

theorem visit_run (pre post : List Pend) (hpre : ∀ q ∈ pre, q.mentioned = true)
    (undef : List String) (m : Pend) (hfree : ∀ c ∈ m.free, defines c = none) :
    Run undef (pre ++ m :: post) ((visit undef m).1.map fun c => (m.name, c)) (visit undef m).2.2
      (pre ++ (visit undef m).2.1 :: post) := by
  obtain ⟨n, ch, fr, b⟩ := m
  have h := (takeChain_run pre post hpre n fr ch undef b).append
    (free_run pre post hpre n (takeChain undef ch).2.1 (takeChain undef ch).2.2 fr [] _ hfree)
  simpa [visit, Bool.or_assoc, isEmpty_append, Bool.not_and] using h

theorem visit_name (undef : List String) (m : Pend) : (visit undef m).2.1.name = m.name := rfl

theorem visit_free_defines (undef : List String) (m : Pend) (hfree : ∀ c ∈ m.free, defines c = none) :
    ∀ c ∈ (visit undef m).2.1.free, defines c = none :=
  fun c hc => hfree c (List.mem_filter.mp hc).1

theorem sweep_run : ∀ (ps : List Pend) (pre : List Pend) (undef : List String),
    (∀ q ∈ pre, q.mentioned = true) → (∀ p ∈ ps, ∀ c ∈ p.free, defines c = none) →
    Run undef (pre ++ ps) (sweep undef ps).1 (sweep undef ps).2.2 (pre ++ (sweep undef ps).2.1)
  | [], pre, undef, _, _ => by simpa [sweep] using Run.nil _ _
  | m :: ms, pre, undef, hpre, hfree => by
    have hv := visit_run pre ms hpre undef m (hfree m List.mem_cons_self)
    rw [sweep]
    by_cases hm : (visit undef m).2.1.mentioned = true
    · have h2 := sweep_run ms (pre ++ [(visit undef m).2.1]) (visit undef m).2.2
        (by simpa [or_imp, forall_and, hm] using hpre) fun p hp => hfree p (List.mem_cons_of_mem _ hp)
      simpa [hm] using hv.append (by simpa using h2)
    · simpa [hm] using Run.nil _ _

theorem takeChain_nil (undef : List String) (ch : List AClause) (h : (takeChain undef ch).1 = []) :
    (takeChain undef ch).2.2 = undef ∧ ∀ c rest, ch = c :: rest → ready undef c = false := by
  cases ch with
  | nil => exact ⟨rfl, by simp⟩
  | cons c cs => by_cases hr : ready undef c = true <;> simp_all [takeChain]

theorem sweep_nil_visit : ∀ (pre : List Pend) (undef : List String) (p : Pend) (post : List Pend),
    (∀ q ∈ pre, q.mentioned = true) → (sweep undef (pre ++ p :: post)).1 = [] →
    (visit undef p).1 = []
  | [], undef, p, post, _, h => by
    rw [List.nil_append, sweep] at h
    by_cases hm : (visit undef p).2.1.mentioned = true
    · simpa [hm] using And.left (by simpa [hm] using h)
    · simp [visit] at hm ⊢
      exact hm.2
  | q :: pre, undef, p, post, hpre, h => by
    have hq : (visit undef q).2.1.mentioned = true := by simp [visit, hpre q List.mem_cons_self]
    simp only [List.cons_append, sweep, hq, Bool.not_true, Bool.false_eq_true, if_false,
      List.append_eq_nil_iff, List.map_eq_nil_iff] at h
    have hu : (visit undef q).2.2 = undef :=
      (takeChain_nil undef q.chain (List.append_eq_nil_iff.mp h.1).1).1
    exact sweep_nil_visit pre undef p post (fun x hx => hpre x (List.mem_cons_of_mem _ hx)) (hu ▸ h.2)

theorem no_emits_of_stuck {undef : List String} {ps : List Pend} (h : (sweep undef ps).1 = [])
    {n c u1 ps1} (he : Emits undef ps n c u1 ps1) : False := by
  cases he with
  | chain pre p post c rest hpre hc hr =>
    have hv := List.append_eq_nil_iff.mp (sweep_nil_visit pre undef p post hpre h)
    simpa [hr] using (takeChain_nil undef p.chain hv.1).2 c rest hc
  | free pre p post f1 c f2 hpre hc hr hd =>
    have hv := List.append_eq_nil_iff.mp (sweep_nil_visit pre undef p post hpre h)
    have hmem : c ∈ p.free.filter (ready undef) := List.mem_filter.mpr ⟨by simp [hc], hr⟩
    rw [← (takeChain_nil undef p.chain hv.1).1, hv.2] at hmem
    cases hmem

/-- the variables whose definition is still to be printed -/
def pendVars (ps : List Pend) : List String := ps.flatMap fun p => (assignsIn p.chain).map (·.var)

theorem pendVars_append (a b : List Pend) : pendVars (a ++ b) = pendVars a ++ pendVars b := by
  simp [pendVars, List.flatMap_append]

theorem pendVars_cons (p : Pend) (b : List Pend) :
    pendVars (p :: b) = (assignsIn p.chain).map (·.var) ++ pendVars b := by
  simp [pendVars, List.flatMap_cons]

theorem mem_pendVars {v : String} {ps : List Pend} :
    v ∈ pendVars ps ↔ ∃ p ∈ ps, ∃ a, AClause.assign a ∈ p.chain ∧ a.var = v := by
  simp [pendVars, mem_assignsIn]

/-- what is pending for a member: a tail of its auditor clauses, some of its other clauses,
and everything as long as it was not mentioned -/
def PAlign (m : Member) (p : Pend) : Prop :=
  p.name = m.name ∧ (∃ done, chainOf m = done ++ p.chain) ∧ (∀ c ∈ p.free, c ∈ freeOf m) ∧
  (p.mentioned = false → p.chain = chainOf m ∧ p.free = freeOf m)

structure PInv (ms : List Member) (undef : List String) (ps : List Pend) : Prop where
  align : All₂ PAlign ms ps
  undefSub : ∀ v ∈ undef, v ∈ pendVars ps

theorem PInv.freeOk {ms undef ps} (h : PInv ms undef ps) : ∀ p ∈ ps, ∀ c ∈ p.free, defines c = none :=
  fun _ hp c hc => let ⟨_, _, ha⟩ := h.align.mem_right hp; (free_facts (ha.2.2.1 c hc)).1

theorem Emits.pinv {ms : List Member} {u ps n c u1 ps1} (h : Emits u ps n c u1 ps1)
    (hinv : PInv ms u ps) : PInv ms u1 ps1 := by
  cases h with
  | chain pre p post c rest hpre hc hr =>
    obtain ⟨mpre, m, mpost, rfl, hapre, ⟨hname, ⟨done, hdone⟩, hfree, -⟩, hapost⟩ :=
      hinv.align.split_right
    refine ⟨hapre.append (.cons ⟨hname, ⟨done ++ [c], by simp [hdone, hc]⟩, hfree, nofun⟩ hapost),
      fun v hv => ?_⟩
    have := hinv.undefSub v (mem_afterPrint.mp hv).1
    simp only [pendVars_append, pendVars_cons, hc, assignsIn_cons_vars, List.mem_append] at this ⊢
    exact this.imp_right (Or.imp_left fun h => h.resolve_left (mem_afterPrint.mp hv).2)
  | free pre p post f1 c f2 hpre hc hr hd =>
    obtain ⟨mpre, m, mpost, rfl, hapre, ⟨hname, hdone, hfree, -⟩, hapost⟩ := hinv.align.split_right
    refine ⟨hapre.append (.cons ⟨hname, hdone, fun x hx => hfree x ?_, nofun⟩ hapost), fun v hv => ?_⟩
    · simp only [hc, List.mem_append, List.mem_cons] at hx ⊢
      exact hx.imp_right .inr
    · simpa [pendVars_append, pendVars_cons] using hinv.undefSub v hv

theorem Run.pinv {ms : List Member} {u ps o u1 ps1} (h : Run u ps o u1 ps1) (hinv : PInv ms u ps) :
    PInv ms u1 ps1 := by
  induction h with
  | nil => exact hinv
  | cons he _ ih => exact ih (he.pinv hinv)

theorem pendVars_init (ms : List Member) : pendVars (ms.map pendOf) = targetsOf ms := by
  simp only [pendVars, targetsOf, List.flatMap_map, pendOf, assignsIn_chainOf]

theorem pinv_init (ms : List Member) : PInv ms (targetsOf ms) (ms.map pendOf) := by
  refine ⟨?_, fun v hv => ?_⟩
  · exact All₂.of_map fun m _ => ⟨rfl, ⟨[], rfl⟩, fun _ h => h, fun _ => ⟨rfl, rfl⟩⟩
  · rwa [pendVars_init]

theorem leftover_append (a b : List Pend) : leftover (a ++ b) = leftover a ++ leftover b := by
  simp [leftover, List.flatMap_append]

theorem leftover_cons (p : Pend) (b : List Pend) :
    leftover (p :: b) = (p.chain ++ p.free).map (fun c => (p.name, c)) ++ leftover b := by
  simp [leftover, List.flatMap_cons]

theorem mem_leftover {n : String} {c : AClause} {ps : List Pend} :
    (n, c) ∈ leftover ps ↔ ∃ p ∈ ps, p.name = n ∧ c ∈ p.chain ++ p.free := by
  simp only [leftover, List.mem_flatMap, List.mem_map, Prod.mk.injEq]
  exact ⟨fun ⟨p, hp, x, hx, e1, e2⟩ => ⟨p, hp, e1, e2 ▸ hx⟩, fun ⟨p, hp, e, hx⟩ => ⟨p, hp, c, hx, e, rfl⟩⟩

theorem Emits.count {u ps n c u1 ps1} (h : Emits u ps n c u1 ps1) :
    clauseCount ps = clauseCount ps1 + 1 := by
  cases h with
  | chain pre p post c rest hpre hc hr | free pre p post f1 c f2 hpre hc hr hd =>
    simp only [clauseCount, leftover_append, leftover_cons, List.length_append, List.length_map, hc,
      List.length_cons]
    omega

theorem Run.nil_inv {u ps u1 ps1} (h : Run u ps [] u1 ps1) : u1 = u ∧ ps1 = ps := by
  cases h; exact ⟨rfl, rfl⟩

theorem Run.count {u ps o u1 ps1} (h : Run u ps o u1 ps1) :
    clauseCount ps = clauseCount ps1 + o.length := by
  induction h with
  | nil => rfl
  | cons he _ ih => rw [he.count, ih, List.length_cons]; omega

theorem schedLoop_spec {ms : List Member} : ∀ (fuel : Nat) (undef : List String) (ps : List Pend),
    PInv ms undef ps → clauseCount ps < fuel →
    ∃ o1 u' ps', schedLoop fuel undef ps = o1 ++ leftover ps' ∧ Run undef ps o1 u' ps' ∧
      (sweep u' ps').1 = []
  | 0, _, _, _, h => by omega
  | k + 1, undef, ps, hinv, hc => by
    have hr : Run undef ps (sweep undef ps).1 (sweep undef ps).2.2 (sweep undef ps).2.1 := by
      simpa using sweep_run ps [] undef (by simp) hinv.freeOk
    rw [schedLoop]
    cases ho : (sweep undef ps).1 with
    | nil =>
      obtain ⟨-, h2⟩ := (ho ▸ hr).nil_inv
      exact ⟨[], undef, ps, by simp [ho, h2], Run.nil _ _, ho⟩
    | cons x o =>
      have hcnt := hr.count
      rw [ho, List.length_cons] at hcnt
      obtain ⟨o1, u', ps', h1, h2, h3⟩ := schedLoop_spec k _ _ (hr.pinv hinv) (by omega)
      exact ⟨(sweep undef ps).1 ++ o1, u', ps', by simp [ho, h1], hr.append h2, h3⟩

/-- A ranking of the printed clauses (think: the time at which the parser saw what each of them
prints) under which every use comes after the definitions, the auditor clauses of a member are
in their printing order, and members are first mentioned in their order. -/
structure Ranked (ms : List Member) (rk : String → AClause → Nat) : Prop where
  uses : ∀ m ∈ ms, ∀ c ∈ canon m, ∀ v ∈ uses c, ∀ m' ∈ ms, ∀ a ∈ m'.assigns, a.var = v →
    rk m'.name (.assign a) < rk m.name c
  chain : ∀ m ∈ ms, List.Pairwise (fun x y => rk m.name x < rk m.name y) (chainOf m)
  first : List.Pairwise
    (fun mi mj => ∃ c ∈ canon mi, ∀ d ∈ canon mj, rk mi.name c < rk mj.name d) ms

theorem exists_min {α : Type} (f : α → Nat) : ∀ (l : List α), l ≠ [] → ∃ x ∈ l, ∀ y ∈ l, f x ≤ f y
  | [a], _ => ⟨a, by simp⟩
  | a :: b :: l, _ => by
    obtain ⟨x, hx, hmin⟩ := exists_min f (b :: l) (by simp)
    by_cases h : f a ≤ f x
    · exact ⟨a, by simp, fun y hy => (List.mem_cons.mp hy).elim (· ▸ Nat.le_refl _)
        fun hy => Nat.le_trans h (hmin y hy)⟩
    · exact ⟨x, List.mem_cons_of_mem _ hx, fun y hy => (List.mem_cons.mp hy).elim
        (fun e => e ▸ by omega) (hmin y)⟩

/-- As long as something is pending, something may be printed: the pending clause of least rank.
Whatever it uses is defined by clauses of smaller rank, which are not pending any more; the
auditor clauses before it and some clause of every member before its own have smaller rank too. -/
theorem exists_emits {ms : List Member} {rk : String → AClause → Nat} {undef : List String}
    {ps : List Pend} (hr : Ranked ms rk) (hinv : PInv ms undef ps)
    (hleft : leftover ps ≠ []) : ∃ n c u1 ps1, Emits undef ps n c u1 ps1 := by
  obtain ⟨⟨n, c⟩, hmem, hmin⟩ := exists_min (fun k : String × AClause => rk k.1 k.2) (leftover ps) hleft
  obtain ⟨p, hp, rfl, hc⟩ := mem_leftover.mp hmem
  obtain ⟨pre, post, rfl⟩ := List.append_of_mem hp
  obtain ⟨mpre, m, mpost, rfl, hapre, ⟨hname, ⟨done, hdone⟩, hfree, -⟩, -⟩ := hinv.align.split_right
  have hm_mem : m ∈ mpre ++ m :: mpost := by simp
  have hcanon : c ∈ canon m := by
    rw [canon, hdone, List.append_assoc]
    exact List.mem_append_right _ ((List.mem_append.mp hc).imp_right (hfree c) |> List.mem_append.mpr)
  -- a pending pair has at least the rank of `c`
  have hle : ∀ {q : Pend} {d : AClause}, q ∈ pre ++ p :: post → d ∈ q.chain ++ q.free →
      rk p.name c ≤ rk q.name d := fun hq hd => hmin (_, _) (mem_leftover.mpr ⟨_, hq, rfl, hd⟩)
  have hpre : ∀ q ∈ pre, q.mentioned = true := by
    intro q hq
    cases hqm : q.mentioned with
    | true => rfl
    | false =>
      obtain ⟨mq, hmq, hqn, -, -, hqu⟩ := hapre.mem_right hq
      obtain ⟨cq, hcq, hlt⟩ := (List.pairwise_append.mp hr.first).2.2 mq hmq m List.mem_cons_self
      have h1 := hle (q := q) (d := cq) (by simp [hq]) (by rw [(hqu hqm).1, (hqu hqm).2]; exact hcq)
      have h2 := hlt c hcanon
      rw [hqn, hname] at *; omega
  have hready : ready undef c = true := by
    simp only [ready, List.all_eq_true, Bool.not_eq_true', List.contains_eq_mem, decide_eq_false_iff_not]
    intro v hv hvu
    obtain ⟨p2, hp2, a2, ha2, hv2⟩ := mem_pendVars.mp (hinv.undefSub v hvu)
    obtain ⟨m2, hm2, hn2, ⟨done2, hdone2⟩, -, -⟩ := hinv.align.mem_right hp2
    have ha2' : a2 ∈ m2.assigns := by
      rw [← assignsIn_chainOf, hdone2, assignsIn_append]
      exact List.mem_append_right _ (mem_assignsIn.mpr ha2)
    have hlt := hr.uses m hm_mem c hcanon v hv m2 hm2 a2 ha2' hv2
    have h1 := hle hp2 (List.mem_append_left _ ha2)
    rw [hn2, hname] at *; omega
  rcases List.mem_append.mp hc with hcc | hcf
  · -- an auditor clause: it is the first one
    cases hch : p.chain with
    | nil => rw [hch] at hcc; cases hcc
    | cons h rest =>
      rw [hch] at hcc
      rcases List.mem_cons.mp hcc with rfl | hrest
      · exact ⟨_, _, _, _, Emits.chain undef pre p post c rest hpre hch hready⟩
      · have hpw := hr.chain m hm_mem
        rw [hdone, hch] at hpw
        have hlt := (List.pairwise_cons.mp (List.pairwise_append.mp hpw).2.1).1 c hrest
        have h1 := hle (q := p) (d := h) (by simp) (by simp [hch])
        rw [hname] at *; omega
  · obtain ⟨f1, f2, hsplit⟩ := List.append_of_mem hcf
    exact ⟨_, _, _, _, Emits.free undef pre p post f1 c f2 hpre hsplit hready (free_facts (hfree c hcf)).1⟩

theorem pendsOf_eq {ms : List Member} (hne : ∀ m ∈ ms, canon m ≠ []) : pendsOf ms = ms.map pendOf := by
  refine List.filter_eq_self.mpr fun p hp => ?_
  obtain ⟨m, hm, rfl⟩ := List.mem_map.mp hp
  simpa [pendOf, canon] using hne m hm

theorem sched_run {ms : List Member} {rk : String → AClause → Nat} (hr : Ranked ms rk)
    (hne : ∀ m ∈ ms, canon m ≠ []) :
    ∃ u' ps', Run (targetsOf ms) (ms.map pendOf) (sched ms) u' ps' ∧ leftover ps' = [] := by
  obtain ⟨o1, u', ps', h1, h2, h3⟩ := schedLoop_spec (clauseCount (ms.map pendOf) + 1) (targetsOf ms)
    (ms.map pendOf) (pinv_init ms) (Nat.lt_succ_self _)
  have hempty : leftover ps' = [] := Classical.byContradiction fun hl =>
    let ⟨_, _, _, _, he⟩ := exists_emits hr (h2.pinv (pinv_init ms)) hl
    no_emits_of_stuck h3 he
  exact ⟨u', ps', by simpa [sched, pendsOf_eq hne, h1, hempty] using h2, hempty⟩

end Shk.Printer
