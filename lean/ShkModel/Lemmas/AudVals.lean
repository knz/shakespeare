import ShkModel.Lemmas.Audition
/-!
# What the audit loop does to `vals`, `activated` and the wake flags (helper lemmas for C11)

`Ext T s s'`: nothing was de-activated and no variable outside `T` re-assigned.  Every operation of the loop extends
the state in this sense with `T` = the targets of the assignments it runs, so a variable keeps its value through
whatever does not assign it.
-/
namespace Shk.AudVals
open Shk Shk.Aud

section
variable (c : Cfg) (s : St) (ts : Rat) (typ : Typ) (v : VarName) (val : Val) (cc : Bool)

theorem setVar_nil (h : val.isNil = true) : setVar c s ts typ v val cc = s := by rw [setVar_eq, h]; rfl

theorem setVar_vals (h : val.isNil = false) (w : VarName) :
    (setVar c s ts typ v val cc).vals w = if w = v then val else s.vals w := by
  rw [setVar_eq, h]; rfl

theorem setVar_activated (h : val.isNil = false) (w : VarName) :
    (setVar c s ts typ v val cc).activated w = if w = v then true else s.activated w := by
  rw [setVar_eq, h]; rfl

theorem setVar_abort : (setVar c s ts typ v val cc).abort = s.abort := by
  rw [setVar_eq]; cases val.isNil <;> rfl

theorem setVar_woke (h : val.isNil = false) (w : Member) (hw : w ∈ c.members) (hm : v ∈ w.mentions)
    (ha : w.isAuditor = true) : ((setVar c s ts typ v val cc).aud w.name).activated = true :=
  setVar_wakes c s ts typ v val cc h w (List.mem_filter.2 ⟨hw, List.contains_iff_mem.2 hm⟩) ha

end

/-- `s'` extends `s`: nothing is de-activated, nothing outside `T` is re-assigned -/
structure Ext (T : VarName → Prop) (s s' : St) : Prop where
  act : ∀ w, s.activated w = true → s'.activated w = true
  woke : ∀ n, (s.aud n).activated = true → (s'.aud n).activated = true
  vals : ∀ w, ¬ T w → s'.vals w = s.vals w

theorem Ext.refl (T : VarName → Prop) (s : St) : Ext T s s := ⟨fun _ h => h, fun _ h => h, fun _ _ => rfl⟩

theorem Ext.trans {T : VarName → Prop} {a b c : St} (h1 : Ext T a b) (h2 : Ext T b c) : Ext T a c :=
  ⟨fun w h => h2.act w (h1.act w h), fun n h => h2.woke n (h1.woke n h),
   fun w h => (h2.vals w h).trans (h1.vals w h)⟩

theorem ext_frame (T : VarName → Prop) : Frame (Ext T) :=
  ⟨Ext.refl T, Ext.trans, fun _ _ => ⟨fun _ h => h, fun _ h => h, fun _ _ => rfl⟩⟩

theorem setVar_ext (T : VarName → Prop) (c : Cfg) (s : St) (ts : Rat) (typ : Typ) (v : VarName)
    (val : Val) (cc : Bool) (hT : T v) : Ext T s (setVar c s ts typ v val cc) := by
  cases h : val.isNil with
  | true => rw [setVar_nil _ _ _ _ _ _ _ h]; exact Ext.refl T s
  | false =>
    refine ⟨fun w hw => ?_, fun n hn => ?_, fun w hw => ?_⟩
    · rw [setVar_activated _ _ _ _ _ _ _ h, hw, ite_self]
    · rcases setVar_aud c s ts typ v val cc n with e | e <;> rw [e]
      exact hn
    · rw [setVar_vals _ _ _ _ _ _ _ h, if_neg fun e : w = v => hw (e ▸ hT)]

/-- a visit does not touch values, and `setAud` of the visited member keeps its wake flag -/
theorem ext_respects (T : VarName → Prop) (m : Member) : Respects m (Ext T) where
  toFrame := ext_frame T
  emit := fun _ _ _ => ⟨fun _ h => h, fun _ h => h, fun _ _ => rfl⟩
  setAud := fun s a h => ⟨fun _ h => h, fun n hn => by
    by_cases e : n = m.name
    · subst e; rw [setAud_aud_self, h]; exact hn
    · rw [setAud_aud_other _ _ _ _ e]; exact hn, fun _ _ => rfl⟩

theorem assignOne_ext (T : VarName → Prop) (c : Cfg) (ts : Rat) (s : St) (a : Assign)
    (hT : T ⟨"", a.target⟩) : Ext T s (assignOne c ts s a) :=
  (ext_frame T).assignOne c ts a (fun s typ val => setVar_ext T c s ts typ _ val true hT) s

theorem assignAll_ext (T : VarName → Prop) (c : Cfg) (ts : Rat) (s : St) (as : List Assign)
    (hT : ∀ a ∈ as, T ⟨"", a.target⟩) : Ext T s (assignAll c ts s as) :=
  (ext_frame T).assignAll c ts as (fun a ha s typ val => setVar_ext T c s ts typ _ val true (hT a ha)) s

theorem checkExpect_ext (T : VarName → Prop) (s : St) (ts : Rat) (m : Member) :
    Ext T s (checkExpect s ts m) :=
  (ext_respects T m).checkExpect s ts

theorem visit_ext (T : VarName → Prop) (c : Cfg) (final : Bool) (ts : Rat) (s : St) (m : Member)
    (hT : ∀ a ∈ m.assigns, T ⟨"", a.target⟩) : Ext T s (visit c final ts s m) :=
  (ext_respects T m).visit c final ts
    (fun a ha s typ val => setVar_ext T c s ts typ _ val true (hT a ha)) s

/-- one member's turn in `round`: `rvisit`, under the name the C11 statements use -/
def roundStep (c : Cfg) (final : Bool) (ts : Rat) (st : St) (m : Member) : St :=
  if visited final st m then visit c final ts st m else st

theorem roundStep_eq_rvisit : roundStep = rvisit := rfl

theorem roundStep_dormant (c : Cfg) (final : Bool) (ts : Rat) (s : St) (m : Member)
    (h : visited final s m = false ∨ ((s.aud m.name).auditing = false ∧
      (condOf final s m = some (.ok false) ∨ condOf final s m = none))) :
    roundStep c final ts s m = s := by
  unfold roundStep
  rcases h with h | ⟨hna, hcond⟩
  · rw [h]; rfl
  · rw [visit_inactive hcond hna, ite_self]

theorem round_eq (c : Cfg) (final : Bool) (ts : Rat) (samples : List Sample) (s : St) :
    round c final ts samples s =
      if s.abort.isSome then s else c.members.foldl (roundStep c final ts) (beginRound c ts samples s) :=
  rfl

theorem roundFold_ext (T : VarName → Prop) (c : Cfg) (final : Bool) (ts : Rat) (s : St)
    (ms : List Member) (hT : ∀ m ∈ ms, ∀ a ∈ m.assigns, T ⟨"", a.target⟩) :
    Ext T s (ms.foldl (roundStep c final ts) s) :=
  roundStep_eq_rvisit ▸ (ext_frame T).fold c final ts ms (fun m hm s _ => visit_ext T c final ts s m (hT m hm)) s

theorem setVar_vals_ne (c : Cfg) (s : St) (ts : Rat) (typ : Typ) (v : VarName) (val : Val) (cc : Bool)
    (w : VarName) (h : w ≠ v) : (setVar c s ts typ v val cc).vals w = s.vals w :=
  (setVar_ext (· = v) c s ts typ v val cc rfl).vals w h

theorem beginRound_vals (c : Cfg) (ts : Rat) (samples : List Sample) (s : St) (w : VarName)
    (ht : w ≠ ⟨"", "t"⟩) (hm : w ≠ ⟨"", "mood"⟩) (hmt : w ≠ ⟨"", "moodt"⟩)
    (hs : ∀ x ∈ samples, x.v ≠ w) : (beginRound c ts samples s).vals w = s.vals w := by
  refine (foldl_rel (R := fun s s' : St => s'.vals w = s.vals w) (fun _ => rfl) (fun h1 h2 => h2.trans h1)
    _ samples (fun x hx s => ?_) _).trans (((setVar_vals_ne _ _ _ _ _ _ _ _ hmt).trans
      (setVar_vals_ne _ _ _ _ _ _ _ _ hm)).trans (setVar_vals_ne _ _ _ _ _ _ _ _ ht))
  show (if x.val.isNil then s else _).vals w = _
  cases x.val.isNil
  · exact setVar_vals_ne c s ts x.typ x.v x.val false w (Ne.symm (hs x hx))
  · rfl

end Shk.AudVals
