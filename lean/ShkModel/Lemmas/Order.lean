/-! The smaller and the larger of two values as the code writes them, `if a < b then … else …`, and the bounds
`expandTimeRange` keeps with them, in any linear order (C12: `Int`, C19: `Rat`). -/
namespace Shk
open Std

variable {α : Type} [LE α] [LT α] [DecidableLT α] [IsLinearOrder α] [LawfulOrderLT α]

theorem ite_lt_le (a b : α) : (if a < b then a else b) ≤ a ∧ (if a < b then a else b) ≤ b := by
  split
  · exact ⟨le_refl a, le_of_lt ‹_›⟩
  · exact ⟨not_lt.mp ‹_›, le_refl b⟩

theorem le_ite_lt (a b : α) : a ≤ (if a < b then b else a) ∧ b ≤ (if a < b then b else a) := by
  split
  · exact ⟨le_of_lt ‹_›, le_refl b⟩
  · exact ⟨le_refl a, not_lt.mp ‹_›⟩

theorem ite_le_eq [DecidableLE α] {β : Type} (a b : α) (x y : β) :
    (if a ≤ b then x else y) = (if b < a then y else x) := by
  by_cases h : a ≤ b
  · rw [if_pos h, if_neg (not_lt.mpr h)]
  · rw [if_neg h, if_pos (not_le.mp h)]

/-- both bounds are set and `t` lies between them -/
def Covers (lo hi : Option α) (t : α) : Prop := ∃ a b, lo = some a ∧ hi = some b ∧ a ≤ t ∧ t ≤ b

/-- `expandTimeRange` over a list, for any shape of the state (C12 keeps an optional pair, C19 a pair of options): a
lower and an upper bound, each unset until the first value and from then on the smallest / largest so far, end up
around every value of the list. -/
theorem covers_foldl {σ : Type} {step : σ → α → σ} {lo hi : σ → Option α}
    (hlo : ∀ s u, lo (step s u) = some ((lo s).elim u fun a => if u < a then u else a))
    (hhi : ∀ s u, hi (step s u) = some ((hi s).elim u fun b => if b < u then u else b))
    {ts : List α} {t : α} :
    ∀ {s}, t ∈ ts ∨ Covers (lo s) (hi s) t → Covers (lo (ts.foldl step s)) (hi (ts.foldl step s)) t := by
  have widen (s u) (h : t = u ∨ Covers (lo s) (hi s) t) : Covers (lo (step s u)) (hi (step s u)) t := by
    refine ⟨_, _, hlo s u, hhi s u, ?_⟩
    rcases h with rfl | ⟨a, b, ha, hb, h1, h2⟩
    · constructor
      · cases lo s with
        | none => exact le_refl t
        | some a => exact (ite_lt_le t a).1
      · cases hi s with
        | none => exact le_refl t
        | some b => exact (le_ite_lt b t).2
    · rw [ha, hb]
      exact ⟨le_trans (ite_lt_le u a).2 h1, le_trans h2 (le_ite_lt b u).1⟩
  induction ts with
  | nil => intro s h; exact h.resolve_left nofun
  | cons a ts ih =>
    intro s h
    rcases h with h | h
    · rcases List.mem_cons.mp h with h | h
      · exact ih (.inr (widen s a (.inl h)))
      · exact ih (.inl h)
    · exact ih (.inr (widen s a (.inr h)))

end Shk
