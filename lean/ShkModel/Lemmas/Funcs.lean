import ShkModel.Lemmas.Collect
/-!
# The array functions of C11 against their specification: the numeric view, the aggregates, `sorted`, and
the equations of `callFn` name by name
-/
namespace Shk.Funcs
open Shk Shk.FuncSpec Shk.Sort Shk.Collect

theorem isSortedAsc_iff (l : List Rat) : isSortedAsc l = true ↔ l.Pairwise (· ≤ ·) := by
  induction l with
  | nil => simp [isSortedAsc]
  | cons a t ih =>
    cases t with
    | nil => simp [isSortedAsc]
    | cons b r =>
      simp only [isSortedAsc, Bool.and_eq_true, decide_eq_true_eq, ih, List.pairwise_cons, List.forall_mem_cons]
      exact ⟨fun ⟨hab, hb, hr⟩ => ⟨⟨hab, fun x hx => Rat.le_trans hab (hb x hx)⟩, hb, hr⟩,
        fun ⟨⟨hab, _⟩, h⟩ => ⟨hab, h⟩⟩

theorem perm_of_count {α : Type} [BEq α] [LawfulBEq α] {a b : List α} (hl : a.length = b.length)
    (hc : ∀ x ∈ a, a.count x = b.count x) : a.Perm b := by
  induction a generalizing b with
  | nil => rw [List.eq_nil_of_length_eq_zero hl.symm]
  | cons x a ih =>
    have hx : x ∈ b := List.count_pos_iff.1 (by
      rw [← hc x List.mem_cons_self, List.count_cons_self]; exact Nat.succ_pos _)
    have hb : b.Perm (x :: b.erase x) := List.perm_cons_erase hx
    refine ((ih (Nat.succ.inj (hl.trans hb.length_eq)) fun y hy => ?_).cons x).trans hb.symm
    have h1 := hc y (List.mem_cons_of_mem _ hy)
    by_cases hyx : y = x
    · subst hyx
      rw [List.count_cons_self] at h1
      rw [List.count_erase_self]; exact Nat.eq_sub_of_add_eq h1
    · rw [List.count_cons_of_ne (Ne.symm hyx)] at h1
      rw [List.count_erase_of_ne hyx]; exact h1

theorem sameElems_iff (a b : List Rat) : sameElems a b = true ↔ a.Perm b := by
  simp only [sameElems, Bool.and_eq_true, beq_iff_eq, List.all_eq_true]
  exact ⟨fun h => perm_of_count h.1 h.2, fun h => ⟨h.length_eq, fun x _ => h.count_eq x⟩⟩

theorem numsOf_def (l : List Sc) : numsOf l = (nonNil l).mapM Sc.numOf := rfl

@[simp] theorem numsOf_nil : numsOf [] = some [] := rfl

theorem numsOf_cons_nil (l : List Sc) : numsOf (Sc.nil :: l) = numsOf l := by
  simp [numsOf, nonNil_cons_nil]

theorem numsOf_cons_str (s : String) (l : List Sc) : numsOf (Sc.str s :: l) = none := by
  simp [numsOf, nonNil_cons (x := .str s) (by simp), Sc.numOf]

theorem numsOf_cons_num {x : Sc} {v : Rat} (h : x.numOf = some v) (l : List Sc) :
    numsOf (x :: l) = (numsOf l).map (v :: ·) := by
  simp only [numsOf, nonNil_cons (ne_nil_of_numOf h), List.mapM_cons, h]
  cases List.mapM Sc.numOf (nonNil l) <;> rfl

theorem numsOf_eq_some_iff {l : List Sc} {ns : List Rat} :
    numsOf l = some ns ↔ (∀ x ∈ l, Sc.isStr x = false) ∧ numsOfAll l = ns := by
  induction l generalizing ns with
  | nil => exact ⟨fun h => ⟨fun _ h => (List.not_mem_nil h).elim, Option.some.inj h⟩, fun h => congrArg some h.2⟩
  | cons x l ih =>
    rw [List.forall_mem_cons]
    rcases numOf_cases x with rfl | ⟨s, rfl⟩ | ⟨v, hv⟩
    · rw [numsOf_cons_nil, numsOfAll_cons_nil, ih]
      exact ⟨fun h => ⟨⟨rfl, h.1⟩, h.2⟩, fun h => ⟨h.1.2, h.2⟩⟩
    · rw [numsOf_cons_str]
      exact ⟨fun h => (Option.some_ne_none _ h.symm).elim, fun h => Bool.noConfusion h.1.1⟩
    · have hs : Sc.isStr x = false := by
        cases x with
        | str s => cases hv
        | _ => rfl
      rw [numsOf_cons_num hv, numsOfAll_cons hv, Option.map_eq_some_iff]
      constructor
      · rintro ⟨t, h1, rfl⟩; exact ⟨⟨hs, (ih.1 h1).1⟩, congrArg _ (ih.1 h1).2⟩
      · rintro ⟨h1, rfl⟩; exact ⟨_, ih.2 ⟨h1.2, rfl⟩, rfl⟩

theorem length_of_mapM_some {α β : Type} {f : α → Option β} {l : List α} {r : List β}
    (h : l.mapM f = some r) : r.length = l.length := by
  induction l generalizing r with
  | nil => cases h; rfl
  | cons a l ih =>
    simp only [List.mapM_cons, Option.bind_eq_bind, Option.bind_eq_some_iff, Option.pure_def,
      Option.some.injEq] at h
    obtain ⟨b, -, bs, hl, rfl⟩ := h
    exact congrArg (· + 1) (ih hl)

theorem numsOf_length {l : List Sc} {ns : List Rat} (h : numsOf l = some ns) :
    ns.length = (nonNil l).length := length_of_mapM_some h

theorem foldl_add (a : Rat) (l : List Rat) : l.foldl (· + ·) a = a + l.foldr (· + ·) 0 := by
  induction l generalizing a with
  | nil => simp [Rat.add_zero]
  | cons x l ih => simp only [List.foldl_cons, List.foldr_cons, ih, Rat.add_assoc]

theorem ratSum_eq (l : List Rat) : ratSum l = l.foldr (· + ·) 0 := by
  rw [ratSum, foldl_add, Rat.zero_add]

/-- `min` with `R` = `≤`, `max` with `R` = `≥` -/
theorem foldl_select {α : Type} {f : α → α → α} {R : α → α → Prop} (refl : ∀ a, R a a)
    (trans : ∀ {a b c}, R a b → R b c → R a c)
    (hf : ∀ a b, (f a b = a ∨ f a b = b) ∧ R (f a b) a ∧ R (f a b) b) (n : α) (l : List α) :
    l.foldl f n ∈ n :: l ∧ ∀ x ∈ n :: l, R (l.foldl f n) x := by
  induction l generalizing n with
  | nil => exact ⟨List.mem_singleton.2 rfl, fun x hx => List.mem_singleton.1 hx ▸ refl n⟩
  | cons y l ih =>
    simp only [List.foldl_cons, List.mem_cons, forall_eq_or_imp] at ih ⊢
    obtain ⟨hm, h0, hl⟩ := ih (f n y)
    obtain ⟨hny, hn, hy⟩ := hf n y
    exact ⟨hm.elim (fun e => hny.elim (fun e' => .inl (e.trans e')) fun e' => .inr (.inl (e.trans e')))
      fun h => .inr (.inr h), trans h0 hn, trans h0 hy, hl⟩

theorem foldl_min (n : Rat) (l : List Rat) : l.foldl min n ∈ n :: l ∧ ∀ x ∈ n :: l, l.foldl min n ≤ x :=
  foldl_select (fun _ => Rat.le_refl) Rat.le_trans
    (fun a b => by
      rw [Rat.min_def]; split
      · exact ⟨.inl rfl, Rat.le_refl, ‹_›⟩
      · exact ⟨.inr rfl, le_of_not_le ‹_›, Rat.le_refl⟩) n l

theorem foldl_max (n : Rat) (l : List Rat) : l.foldl max n ∈ n :: l ∧ ∀ x ∈ n :: l, x ≤ l.foldl max n :=
  foldl_select (R := (· ≥ ·)) (fun _ => Rat.le_refl) (fun h1 h2 => Rat.le_trans h2 h1)
    (fun a b => by
      rw [Rat.max_def]; split
      · exact ⟨.inr rfl, ‹_›, Rat.le_refl⟩
      · exact ⟨.inl rfl, Rat.le_refl, le_of_not_le ‹_›⟩) n l

theorem isMedian_iff (r : Rat) (xs : List Rat) :
    isMedian r xs = true ↔
      ((sortAsc xs).length % 2 = 1 ∧ (sortAsc xs)[((sortAsc xs).length - 1) / 2]? = some r) ∨
      ((sortAsc xs).length % 2 = 0 ∧ ∃ a b, (sortAsc xs)[(sortAsc xs).length / 2 - 1]? = some a ∧
        (sortAsc xs)[(sortAsc xs).length / 2]? = some b ∧ r = (a + b) / 2) := by
  unfold isMedian
  generalize sortAsc xs = t
  rcases Nat.mod_two_eq_zero_or_one t.length with h | h <;>
    simp only [h, Nat.reduceBEq, Bool.false_eq_true, if_false, if_true, Nat.reduceEqDiff, false_and, true_and,
      false_or, or_false]
  · constructor
    · intro hm; split at hm
      · exact ⟨_, _, ‹_›, ‹_›, beq_iff_eq.1 hm⟩
      · cases hm
    · rintro ⟨a, b, ha, hb, rfl⟩; rw [ha, hb]; exact beq_self_eq_true _
  · rw [beq_iff_eq]; exact eq_comm

/-- what `callFn "med"` computes from the sorted list -/
def medOf (s : List Rat) : Rat :=
  if s.length % 2 == 1 then s.getD ((s.length - 1) / 2) 0
  else (s.getD (s.length / 2 - 1) 0 + s.getD (s.length / 2) 0) / 2

theorem getElem?_getD {α : Type} {l : List α} {i : Nat} (h : i < l.length) (d : α) :
    l[i]? = some (l.getD i d) := by
  rw [List.getD_eq_getElem?_getD, List.getElem?_eq_getElem h]; rfl

theorem isMedian_medOf (ns : List Rat) (h : ns ≠ []) : isMedian (medOf (sortAsc ns)) ns = true := by
  have hlen : 0 < (sortAsc ns).length := by
    rw [(sortAsc_perm ns).length_eq]; exact List.length_pos_iff.2 h
  rw [isMedian_iff]
  generalize sortAsc ns = t at hlen
  have h2 : t.length / 2 < t.length := Nat.div_lt_self hlen (by decide)
  rcases Nat.mod_two_eq_zero_or_one t.length with hp | hp
  · exact .inr ⟨hp, _, _, getElem?_getD (Nat.lt_of_le_of_lt (Nat.sub_le _ _) h2) 0, getElem?_getD h2 0,
      by simp only [medOf, hp]; rfl⟩
  · exact .inl ⟨hp, by
      simp only [medOf, hp]
      exact getElem?_getD (Nat.lt_of_le_of_lt (Nat.div_le_self _ _) (Nat.sub_lt hlen Nat.one_pos)) 0⟩

/-- the scalars with a numeric view (numbers, booleans) rank between nil and the strings -/
theorem rank_of_numOf {x : Sc} {v : Rat} (h : x.numOf = some v) : x.rank = 1 := by
  cases x with
  | nil | str _ => cases h
  | num _ | bool _ => rfl

theorem scLess_num {x y : Sc} {a b : Rat} (hx : x.numOf = some a) (hy : y.numOf = some b) :
    scLess x y = decide (a < b) := by
  simp [scLess, rank_of_numOf hx, rank_of_numOf hy, hx, hy]

theorem scLess_nil_right (y : Sc) : scLess y .nil = false := by
  cases y <;> simp [scLess, Sc.rank, Sc.numOf]

theorem scLess_nil_left {x : Sc} {v : Rat} (hx : x.numOf = some v) : scLess .nil x = true := by
  simp [scLess, rank_of_numOf hx, show Sc.nil.rank = 0 from rfl]

theorem scLess_str_left (s : String) {x : Sc} {v : Rat} (hx : x.numOf = some v) :
    scLess (.str s) x = false := by
  simp [scLess, rank_of_numOf hx, show (Sc.str s).rank = 2 from rfl]

theorem insertSc_nil (l : List Sc) : insertSc .nil l = .nil :: l := by
  cases l with
  | nil => rfl
  | cons y ys => simp [insertSc, scLess_nil_right]

theorem numsOf_insertSc {x : Sc} {v : Rat} (hx : x.numOf = some v) (l : List Sc) :
    numsOf (insertSc x l) = (numsOf l).map (insertAsc v) := by
  induction l with
  | nil => simp [insertSc, numsOf_cons_num hx, insertAsc]
  | cons y ys ih =>
    rcases numOf_cases y with rfl | ⟨s, rfl⟩ | ⟨w, hw⟩
    · simp [insertSc, scLess_nil_left hx, numsOf_cons_nil, ih]
    · simp [insertSc, scLess_str_left s hx, numsOf_cons_str, numsOf_cons_num hx]
    · simp only [insertSc, scLess_num hw hx, decide_eq_true_eq]
      split
      · rename_i hlt
        rw [numsOf_cons_num hw, ih, numsOf_cons_num hw]
        cases numsOf ys with
        | none => rfl
        | some t => simp [insertAsc, Rat.not_le.2 hlt]
      · rename_i hlt
        rw [numsOf_cons_num hx, numsOf_cons_num hw]
        cases numsOf ys with
        | none => rfl
        | some t => simp [insertAsc, Rat.not_lt.1 hlt]

theorem sortSc_cons (x : Sc) (l : List Sc) : sortSc (x :: l) = insertSc x (sortSc l) := rfl

theorem numsOf_sortSc {l : List Sc} {ns : List Rat} (h : numsOf l = some ns) :
    numsOf (sortSc l) = some (sortAsc ns) := by
  induction l generalizing ns with
  | nil => cases h; rfl
  | cons x l ih =>
    rcases numOf_cases x with rfl | ⟨s, rfl⟩ | ⟨v, hv⟩
    · rw [numsOf_cons_nil] at h; rw [sortSc_cons, insertSc_nil, numsOf_cons_nil]; exact ih h
    · rw [numsOf_cons_str] at h; cases h
    · rw [numsOf_cons_num hv, Option.map_eq_some_iff] at h
      obtain ⟨ns', hl, rfl⟩ := h
      rw [sortSc_cons, numsOf_insertSc hv, ih hl]; rfl

theorem sortSc_perm (l : List Sc) : (sortSc l).Perm l := by
  induction l with
  | nil => exact .refl _
  | cons x xs ih => rw [sortSc_cons, insertSc_eq]; exact (insertBy_perm _ x _).trans (ih.cons x)

theorem nonNil_sortSc (l : List Sc) : (nonNil (sortSc l)).Perm (nonNil l) := (sortSc_perm l).filter _

/-- the shape shared by `sum avg min max med`: an error on a string, nil on nothing, otherwise a number
computed from the numeric view -/
def aggFn (g : Rat → List Rat → Rat) (args : List Sc) : Res :=
  match numsOf args with
  | none => .err
  | some [] => .ok (.sc .nil)
  | some (n :: ns) => .ok (.sc (.num (g n ns)))

theorem aggFn_nil {g : Rat → List Rat → Rat} {args : List Sc} (h : numsOf args = some []) :
    aggFn g args = .ok (.sc .nil) := by rw [aggFn, h]

theorem aggFn_cons {g : Rat → List Rat → Rat} {args : List Sc} {n : Rat} {ns : List Rat}
    (h : numsOf args = some (n :: ns)) : aggFn g args = .ok (.sc (.num (g n ns))) := by rw [aggFn, h]

/-- `funcOk` has this shape on `sum avg min max med`: a result of `aggFn g` meets it as soon as `g n ns` meets `Q`
on `n :: ns` -/
theorem aggFn_meets {g : Rat → List Rat → Rat} {args : List Sc} {r : Val} (h : aggFn g args = .ok r)
    {Q : List Rat → Bool} (hQ : ∀ n ns, r = .sc (.num (g n ns)) → Q (n :: ns) = true) :
    (match (nonNil args).mapM Sc.numOf with
      | some [] => r == .sc .nil
      | some ns => Q ns
      | none => true) = true := by
  revert h
  rw [aggFn, numsOf]
  cases (nonNil args).mapM Sc.numOf with
  | none => nofun
  | some l =>
    cases l with
    | nil => rintro ⟨⟩; rfl
    | cons n ns => rintro ⟨⟩; exact hQ n ns rfl

theorem aggFn_of_list (g : List Rat → Rat) (args : List Sc) :
    (match numsOf args with
      | none => Res.err
      | some [] => .ok (.sc .nil)
      | some ns => .ok (.sc (.num (g ns)))) = aggFn (fun n ns => g (n :: ns)) args := by
  unfold aggFn; cases numsOf args with
  | none => rfl
  | some l => cases l <;> rfl

theorem callFn_count (args : List Sc) :
    callFn "count" args = .ok (.sc (.num (nonNil args).length)) := by rw [callFn]

theorem callFn_first (args : List Sc) :
    callFn "first" args = .ok (.sc ((nonNil args).head?.getD .nil)) := by rw [callFn]

theorem callFn_last (args : List Sc) :
    callFn "last" args = .ok (.sc ((nonNil args).getLast?.getD .nil)) := by rw [callFn]

theorem callFn_sorted (args : List Sc) :
    callFn "sorted" args = if args.isEmpty then .ok (.sc .nil) else .ok (.arr (sortSc args)) := by rw [callFn]

theorem callFn_sorted_of_ne {args : List Sc} (h : args ≠ []) :
    callFn "sorted" args = .ok (.arr (sortSc args)) := by
  rw [callFn_sorted, if_neg (by simpa using h)]

theorem callFn_sum (args : List Sc) :
    callFn "sum" args = aggFn (fun n ns => ratSum (n :: ns)) args := by
  rw [callFn]; exact aggFn_of_list ratSum args

theorem callFn_avg (args : List Sc) :
    callFn "avg" args = aggFn (fun n ns => ratSum (n :: ns) / ((n :: ns).length : Nat)) args := by
  rw [callFn]; exact aggFn_of_list (fun ns => ratSum ns / (ns.length : Nat)) args

theorem callFn_average (args : List Sc) : callFn "average" args = callFn "avg" args := by
  rw [callFn, callFn]

theorem callFn_min (args : List Sc) : callFn "min" args = aggFn (fun n ns => ns.foldl min n) args := by
  rw [callFn]; rfl

theorem callFn_max (args : List Sc) : callFn "max" args = aggFn (fun n ns => ns.foldl max n) args := by
  rw [callFn]; rfl

theorem callFn_med (args : List Sc) :
    callFn "med" args = aggFn (fun n ns => medOf (sortAsc (n :: ns))) args := by
  rw [callFn, ← aggFn_of_list fun ns => medOf (sortAsc ns)]
  cases numsOf args with
  | none => rfl
  | some l =>
    cases l with
    | nil => rfl
    | cons n ns => exact (apply_ite (fun v => Res.ok (.sc (.num v))) _ _ _).symm

theorem callFn_median (args : List Sc) : callFn "median" args = callFn "med" args := by
  rw [callFn, callFn]

theorem scalarFn_nil (f : Rat → Res) : scalarFn f [] = .ok (.sc .nil) ∧ scalarFn f [.nil] = .ok (.sc .nil) :=
  ⟨rfl, rfl⟩

theorem callFn_abs (args : List Sc) :
    callFn "abs" args = scalarFn (fun x => .ok (.sc (.num (if 0 ≤ x then x else -x)))) args := by rw [callFn]

theorem callFn_ceil (args : List Sc) :
    callFn "ceil" args = scalarFn (fun x => .ok (.sc (.num (x.ceil : Int)))) args := by rw [callFn]

theorem callFn_floor (args : List Sc) :
    callFn "floor" args = scalarFn (fun x => .ok (.sc (.num (x.floor : Int)))) args := by rw [callFn]

theorem callFn_round (args : List Sc) :
    callFn "round" args = scalarFn (fun x => .ok (.sc (.num (roundHalfAway x)))) args := by rw [callFn]

end Shk.Funcs
