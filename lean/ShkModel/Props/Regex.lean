import ShkModel.Lemmas.Regex
import ShkModel.Gen.ClauseRe
/-!
# The clause regexps of the configuration parser — what the matcher finds is what the regexp means

`Shk.Gen.all` is regenerated on every run from the Go source (`harness/cmd/vregex`), so the
table theorems below (`all_in_class`, `anchored_all`, …) are re-elaborated against the regexps
the parser holds **now**.  The general theorems hold for every regexp of the abstract syntax and
every string, without a bound.

Assumed, not proved: that Go's `regexp` package computes, for a regexp in which no repeated
sub-expression can match the empty string (`inClass`, checked over the table by `all_in_class`),
the first match of a backtracking search — its documented leftmost-first rule.  That is what the
correspondence K-RE compares on generated lines, spans included.
-/
namespace Shk.ReProps
open Shk.Re

/-- whatever `run` reports is a match of the whole string -/
theorem run_sound {r : Re} {s : List Char} {c : Captures} (h : run r s = some c) : Matches r s := by
  obtain ⟨t, ht, hp, _⟩ := run_some h
  rw [Matches, ← hp]
  exact ms_sound s r _ _ ht

/-- every string of the language is found: for every regexp, every string, no bound -/
theorem run_complete {r : Re} {s : List Char} (h : Matches r s) : (run r s).isSome = true := by
  obtain ⟨t, ht, htpos⟩ := ms_complete s r ⟨0, []⟩ s.length h (Nat.zero_le _)
  simp only [run, Option.isSome_map, List.find?_isSome]
  exact ⟨t, ht, beq_iff_eq.mpr htpos⟩

theorem run_iff (r : Re) (s : List Char) : (run r s).isSome = true ↔ Matches r s :=
  ⟨fun h => by
    obtain ⟨c, hc⟩ := Option.isSome_iff_exists.mp h
    exact run_sound hc, run_complete⟩

/-- the answer has one entry per group after the whole-match span, which is the whole string -/
theorem run_shape {r : Re} {s : List Char} {c : Captures} (h : run r s = some c) :
    c.length = ngroups r + 1 ∧ c[0]? = some (some (0, s.length)) := by
  obtain ⟨t, _, hp, rfl⟩ := run_some h
  simp [spans, hp]

/-- a reported group span lies inside the string and is the span of a match of the body of a
group with that number (of *the* group with that number when numbers are not reused,
`group_unique`) -/
theorem run_captures {r : Re} {s : List Char} {c : Captures} {i a b : Nat} (h : run r s = some c)
    (hi : c[i + 1]? = some (some (a, b))) :
    a ≤ b ∧ b ≤ s.length ∧ ∃ nm q, Occ (.group (i + 1) nm q) r ∧ M s q a b := by
  obtain ⟨t, ht, hp, rfl⟩ := run_some h
  rw [getElem?_spans_succ] at hi
  split at hi
  · obtain h0 | ⟨hle, nm, q, ho, hm⟩ := (ms_caps s r _ _ ht).2 _ (mem_of_lookup (Option.some.inj hi))
    · cases h0
    · exact ⟨M_le hm, hp ▸ hle, nm, q, ho, hm⟩
  · cases hi

/-- what `find` reports is a piece of the string that belongs to the language -/
theorem find_sound {r : Re} {s : List Char} {c : Captures} (h : find r s = some c) :
    ∃ a b, c[0]? = some (some (a, b)) ∧ a ≤ b ∧ b ≤ s.length ∧ M s r a b := by
  rcases findFrom_spec s r (s.length + 1) 0 with ⟨h0, _⟩ | ⟨k, t, _, hk, _, ht, he⟩
  · cases h0.symm.trans h
  · obtain rfl := Option.some.inj (he.symm.trans h)
    have hm := ms_sound s r _ _ (List.mem_of_head? ht)
    exact ⟨k, t.pos, rfl, M_le hm, M_bound hm (by simp; omega), hm⟩

/-- if some piece of the string belongs to the language, `find` finds one -/
theorem find_complete {r : Re} {s : List Char} {a b : Nat} (hm : M s r a b) (ha : a ≤ s.length) :
    (find r s).isSome = true := by
  rcases findFrom_spec s r (s.length + 1) 0 with ⟨_, h0⟩ | ⟨k, t, _, _, _, _, he⟩
  · obtain ⟨t, ht, _⟩ := ms_complete s r ⟨a, []⟩ b hm ha
    rw [h0 a (Nat.zero_le _) (by omega)] at ht
    cases ht
  · rw [find, he]; rfl

/-- for a regexp of the shape `^…$` the search of `FindStringSubmatch` is the whole-string
match: same verdict, same spans -/
theorem find_anchored {r : Re} (h : anchored r = true) (s : List Char) : find r s = run r s := by
  revert h
  fun_cases anchored r with
  | case2 => nofun
  | case1 r' =>
    intro he
    -- a way exists only from position 0, and every way ends at the end of the string
    have hall : ∀ k t, t ∈ ms s (.cat .bot r') ⟨k, []⟩ → k = 0 ∧ (t.pos == s.length) = true := by
      intro k t ht
      obtain ⟨u, hu, ht⟩ := mem_ms_cat.mp ht
      obtain ⟨h0, rfl⟩ := mem_ms_bot.mp hu
      exact ⟨h0, beq_iff_eq.mpr (M_endsEot s r' _ _ he (ms_sound s r' _ _ ht))⟩
    rw [run, find?_eq_head? fun t ht => (hall 0 t ht).2]
    rcases findFrom_spec s (.cat .bot r') (s.length + 1) 0 with ⟨h0, hn⟩ | ⟨k, t, _, _, _, ht, he⟩
    · rw [find, h0, hn 0 (Nat.le_refl _) (by omega)]; rfl
    · obtain ⟨rfl, _⟩ := hall k t (List.mem_of_head? ht)
      rw [find, he, ht]; rfl

/-- so for an anchored regexp `FindStringSubmatch` succeeds exactly on the language -/
theorem find_iff_anchored {r : Re} (h : anchored r = true) (s : List Char) :
    (find r s).isSome = true ↔ Matches r s := by
  rw [find_anchored h]; exact run_iff r s

/-- the rule "an iteration that consumed nothing is not repeated" never fires for a body that
cannot match the empty string (`inClass` asks that of every repeated body): there the matcher is plain backtracking -/
theorem star_rule_vacuous {r : Re} (h : nullable r = false) (s : List Char) (st : St) :
    (ms s r st).filter (fun t => st.pos < t.pos) = ms s r st :=
  List.filter_eq_self.mpr fun t ht => by simpa using M_consumes s r _ _ h (ms_sound s r st t ht)

/-- for a regexp whose groups are numbered 1 … n (every regexp of the table, `well_numbered_all`)
the reported span of group `i` is a match of the body of *the* group `i` -/
theorem run_captures_the_group {r : Re} {s : List Char} {c : Captures} {i a b : Nat} {nm : Option String} {q : Re}
    (hw : wellNumbered r = true) (h : run r s = some c) (hi : c[i + 1]? = some (some (a, b)))
    (hq : Occ (.group (i + 1) nm q) r) : a ≤ b ∧ b ≤ s.length ∧ M s q a b := by
  obtain ⟨h1, h2, nm', q', ho, hm⟩ := run_captures h hi
  obtain ⟨_, rfl⟩ := group_unique r (nodup_of_wellNumbered hw) hq ho
  exact ⟨h1, h2, hm⟩

/-- a regexp of the shape `^(\S+)\s+verb\s+…` only matches lines whose second blank-separated
word is the verb: a word, blanks, the verb, a blank -/
theorem verb_second_word {r : Re} {v : List Nat} {s : List Char} (h : wordVerb r = some v)
    (hm : Matches r s) :
    ∃ i j, 0 < i ∧ i < j ∧ (∀ k, k < i → WordCharAt s k) ∧ (∀ k, i ≤ k → k < j → BlankAt s k) ∧
      LitAt s v j ∧ BlankAt s (j + v.length) := by
  revert h
  fun_cases wordVerb r with
  | case1 idx nm g1 ns g2 ws rest v' g3 ws2 x hsp hc =>
    rintro ⟨⟩
    simp only [Bool.and_eq_true, beq_iff_eq] at hc
    obtain ⟨⟨⟨rfl, rfl⟩, rfl⟩, _⟩ := hc
    obtain ⟨_, ⟨rfl, _⟩, i, h1, j, h2, h3⟩ := hm
    have s1 := plus_cls_span (g := g1) h1
    have s2 := plus_cls_span h2
    have l := (splitLit_M s rest _ _).mp h3
    rw [hsp] at l
    exact ⟨i, j, s1.1, s2.1, fun k hk => s1.2 k (Nat.zero_le _) hk, s2.2, l.1, plus_cls_head l.2⟩
  | case2 | case3 | case4 => nofun

/-- a regexp of the shape `^kw\s+…` or `^kw$` only matches lines that begin with the keyword
followed by a blank, or that are the keyword -/
theorem keyword_first {r : Re} {v : List Nat} {s : List Char} (h : keywordFirst r = some v)
    (hm : Matches r s) : LitAt s v 0 ∧ (BlankAt s v.length ∨ s.length = v.length) := by
  revert h
  fun_cases keywordFirst r with
  | case1 rest v' g ws x hsp hc =>
    rintro ⟨⟩
    obtain ⟨_, ⟨rfl, _⟩, h3⟩ := hm
    have l := (splitLit_M s rest _ _).mp h3
    rw [hsp, Nat.zero_add] at l
    simp only [Bool.and_eq_true, beq_iff_eq] at hc
    obtain ⟨rfl, _⟩ := hc
    exact ⟨l.1, .inl (plus_cls_head l.2)⟩
  | case3 rest v' hsp _ =>
    rintro ⟨⟩
    obtain ⟨_, ⟨rfl, _⟩, h3⟩ := hm
    have l := (splitLit_M s rest _ _).mp h3
    rw [hsp, Nat.zero_add] at l
    exact ⟨l.1, .inr l.2.1.symm⟩
  | case2 | case4 | case5 | case6 => nofun

/-- no repeated sub-expression of a clause regexp can match the empty string -/
theorem all_in_class : ∀ p ∈ Gen.all, inClass p.2 = true := by decide +kernel

/-- every regexp but the parameter scanner `~\w+~` has the shape `^…$` -/
theorem anchored_all : ∀ p ∈ Gen.all, p.1 ≠ "preprocRe" → anchored p.2 = true := by decide +kernel

/-- groups are numbered 1 … n in order of their opening parenthesis, each number once -/
theorem well_numbered_all : ∀ p ∈ Gen.all, wellNumbered p.2 = true := by decide +kernel

/-- no regexp of the table accepts the empty line -/
theorem none_matches_empty : ∀ p ∈ Gen.all, ¬ Matches p.2 [] := by
  have h : ∀ p ∈ Gen.all, (run p.2 []).isSome = false := by decide +kernel
  intro p hp hm
  exact Bool.false_ne_true ((h p hp).symm.trans (run_complete hm))

/-- the four section headers are literal keywords: exactly these lines open a section -/
theorem header_keywords (s : List Char) :
    (Matches Gen.actorsRe s ↔ s = "cast".toList) ∧
    (Matches Gen.scriptRe s ↔ s = "script".toList) ∧
    (Matches Gen.audienceRe s ↔ s = "audience".toList) ∧
    (Matches Gen.interpretationRe s ↔ s = "interpretation".toList) :=
  ⟨matches_isLiteral (by decide +kernel) s, matches_isLiteral (by decide +kernel) s,
    matches_isLiteral (by decide +kernel) s, matches_isLiteral (by decide +kernel) s⟩

/-- a clause of these kinds begins with its keyword -/
theorem clause_keywords {s : List Char} :
    (Matches Gen.roleRe s → s.take 4 = "role".toList) ∧
    (Matches Gen.paramRe s → s.take 9 = "parameter".toList) ∧
    (Matches Gen.tempoRe s → s.take 5 = "tempo".toList) ∧
    (Matches Gen.storyLineRe s → s.take 9 = "storyline".toList) ∧
    (Matches Gen.editRe s → s.take 4 = "edit".toList) ∧
    (Matches Gen.entailsRe s → s.take 5 = "scene".toList) ∧
    (Matches Gen.moodChangeRe s → s.take 5 = "scene".toList) ∧
    (Matches Gen.repeatRe s → s.take 6 = "repeat".toList) ∧
    (Matches Gen.spotlightDefRe s → s.take 9 = "spotlight".toList) ∧
    (Matches Gen.cleanupDefRe s → s.take 7 = "cleanup".toList) ∧
    (Matches Gen.parseDefRe s → s.take 6 = "signal".toList) ∧
    (Matches Gen.actionDefRe s → s.take 1 = ":".toList) :=
  ⟨matches_litPrefix (by decide +kernel), matches_litPrefix (by decide +kernel),
    matches_litPrefix (by decide +kernel), matches_litPrefix (by decide +kernel),
    matches_litPrefix (by decide +kernel), matches_litPrefix (by decide +kernel),
    matches_litPrefix (by decide +kernel), matches_litPrefix (by decide +kernel),
    matches_litPrefix (by decide +kernel), matches_litPrefix (by decide +kernel),
    matches_litPrefix (by decide +kernel), matches_litPrefix (by decide +kernel)⟩

/-- every clause regexp of the audience section (the dispatch chain of `parseAudience`, as the
translator reads it off the source) has the shape `^(\S+)\s+verb\s+…`: the verb of an audience
clause is its second word (`verb_second_word` applies to each) -/
theorem audience_clauses_word_verb :
    ∀ n ∈ (Gen.uses.lookup "parseAudience").getD [], ∃ r ∈ Gen.all.lookup n, (wordVerb r).isSome = true := by
  decide +kernel

/-- every clause regexp of a role body, of the script section and of the top level, and the
blanket `ignore` of the interpretation section, begins with its keyword followed by a blank, or is
the keyword alone (`^cast$` and the other section heads): `keyword_first` applies to each; the action definition `:name cmd` and the two-word
`foul upon` / `require` / `ignore <member>` clause are the exceptions -/
theorem keyword_clauses :
    ∀ f ∈ ["parseCfg", "parseRole", "parseScript", "parseInterpretation"],
      ∀ n ∈ (Gen.uses.lookup f).getD [], n ≠ "actionDefRe" → n ≠ "foulRe" →
        ∃ r ∈ Gen.all.lookup n, (keywordFirst r).isSome = true := by
  decide +kernel

/-! A finding (not a theorem here, so that a repair does not break the build): the documented clause
`repeat from <regexp>` with the regexp `times` also has the shape `repeat <count> times`;
`parseScript` tries `repeatCountRe` first, takes `from` for the count and rejects the line with
`strconv.Atoi: parsing "from"`.  `run Gen.repeatRe` and `run Gen.repeatCountRe` both succeed on
`"repeat from times"`. -/

-- (the longer literals are read as lists of characters first: the kernel decodes `"…".toList` byte by byte)
example : run Gen.watchRe "bob watches every doc temp".toList
    = some [some (0, 26), some (0, 3), some (12, 21), some (22, 26)] := by
  rw [String.toList_ofList]; decide +kernel
example : Matches Gen.watchRe "bob watches every doc temp".toList :=
  run_sound (c := [some (0, 26), some (0, 3), some (12, 21), some (22, 26)]) (by rw [String.toList_ofList]; decide +kernel)
example : find Gen.watchRe "bob watches every doc temp".toList = run Gen.watchRe "bob watches every doc temp".toList :=
  find_anchored (by decide +kernel) _
-- lazy `\S+?` gives the star to the next group; `play\s+(\S+)` is the second alternative
example : run Gen.actorDefRe "bob* play 2 doctors".toList
    = some [some (0, 19), some (0, 3), some (3, 4), some (10, 11), some (12, 19), some (19, 19)] := by
  rw [String.toList_ofList]; decide +kernel
-- a group that took no part is `none`
example : run Gen.actorDefRe "bob plays doc".toList
    = some [some (0, 13), some (0, 3), some (3, 3), none, some (10, 13), some (13, 13)] := by
  rw [String.toList_ofList]; decide +kernel
example : run Gen.watchRe "bob watches".toList = none := by decide +kernel
example : ¬ Matches Gen.watchRe "bob watches".toList := fun h => by
  have := run_complete h
  exact absurd this (by decide +kernel)
-- the unanchored scanner: leftmost piece
example : find Gen.preprocRe "a ~bc~ ~d~".toList = some [some (2, 6)] := by decide +kernel
example : run Gen.preprocRe "a ~bc~ ~d~".toList = none := by decide +kernel
-- last iteration wins, an empty iteration is not repeated
example : run (.star true (.group 1 none (.alt (.chr 97) (.chr 98)))) "ab".toList = some [some (0, 2), some (1, 2)] := by decide +kernel
example : run (.star true (.group 1 none (.star true (.chr 97)))) "b".toList = none := by decide +kernel
example : (run (.star true (.star true (.chr 97))) "aaa".toList).isSome = true := by decide +kernel
example : inClass (.star true (.star true (.chr 97))) = false := by decide +kernel
example : wordVerb Gen.watchRe = some ("watches".toList.map Char.toNat) := by decide +kernel
example : wordVerb Gen.noPlotRe = some ("only".toList.map Char.toNat) := by decide +kernel
example : keywordFirst Gen.tempoRe = some ("tempo".toList.map Char.toNat) := by decide +kernel
example : keywordFirst Gen.actorsRe = some ("cast".toList.map Char.toNat) := by decide +kernel
example : wordVerb Gen.actorDefRe = none := by decide +kernel
example : nullable Gen.roleRe = false ∧ anchored Gen.roleRe = true := by decide +kernel
example : ∃ p ∈ Gen.all, p.1 = "preprocRe" ∧ anchored p.2 = false := by decide +kernel

end Shk.ReProps
