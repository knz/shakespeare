import ShkModel.Model.Printer
/-! Lemmas for C10: `loadFrom` clause by clause (`loadFrom_cons`, `loadFrom_append`), lists, the pointwise relation `All₂`. -/
namespace Shk.Printer
open Shk.Story (Act)

theorem loadFrom_cons (mt : String → Act → Bool) (x : Clause) (l : List Clause) (c : Cfg) :
    loadFrom mt c (x :: l) = (step mt c x).bind fun c' => loadFrom mt c' l := by
  simp only [loadFrom]
  cases step mt c x <;> rfl

theorem loadFrom_append (mt : String → Act → Bool) : ∀ (a b : List Clause) (c : Cfg),
    loadFrom mt c (a ++ b) = (loadFrom mt c a).bind fun c' => loadFrom mt c' b
  | [], _, _ => rfl
  | x :: a, b, c => by
    rw [List.cons_append, loadFrom_cons, loadFrom_cons]
    cases step mt c x with
    | none => rfl
    | some c' => exact loadFrom_append mt a b c'

theorem nodup_snoc {α : Type} {l : List α} {a : α} : (l ++ [a]).Nodup ↔ l.Nodup ∧ a ∉ l := by
  simp only [List.nodup_append, List.mem_singleton, List.nodup_cons, List.not_mem_nil,
    not_false_eq_true, List.nodup_nil, true_and]
  exact and_congr_right fun _ => ⟨fun h ha => h a ha a rfl rfl, fun h x hx b hb e => h (hb ▸ e ▸ hx)⟩

theorem nodup_map_snoc {α β : Type} {key : α → β} {l : List α} {a : α} (h : (l.map key).Nodup)
    (ha : ∀ x ∈ l, key x ≠ key a) : ((l ++ [a]).map key).Nodup := by
  simpa [nodup_snoc, h] using ha

theorem isEmpty_append {α : Type} (a b : List α) : (a ++ b).isEmpty = (a.isEmpty && b.isEmpty) := by
  cases a <;> rfl

theorem dropWhile_none {α : Type} (p : α → Bool) : ∀ (l : List α), (∀ x ∈ l, p x = false) → l.dropWhile p = l := by
  intro l
  induction l with
  | nil => intro _; rfl
  | cons x l _ => intro h; simp [List.dropWhile, h x List.mem_cons_self]

theorem nodup_map_mid {α β : Type} {key : α → β} {a b : List α} {x : α}
    (h : ((a ++ x :: b).map key).Nodup) : (∀ y ∈ a, key y ≠ key x) ∧ ∀ y ∈ b, key y ≠ key x := by
  rw [List.map_append, List.map_cons, List.nodup_append, List.nodup_cons] at h
  exact ⟨fun y hy => h.2.2 _ (List.mem_map_of_mem hy) _ List.mem_cons_self,
    fun y hy e => h.2.1.1 (e ▸ List.mem_map_of_mem hy)⟩

/-- `l.any (key · == b)` is how the parser asks whether a name is taken -/
theorem any_key {α β : Type} [BEq β] [LawfulBEq β] (key : α → β) (l : List α) (b : β) :
    l.any (fun x => key x == b) = true ↔ b ∈ l.map key := by
  simp only [List.any_eq_true, beq_iff_eq, List.mem_map]

theorem any_key_false {α β : Type} [BEq β] [LawfulBEq β] (key : α → β) (l : List α) (b : β) :
    l.any (fun x => key x == b) = false ↔ ∀ x ∈ l, key x ≠ b := by
  simp only [List.any_eq_false, beq_iff_eq]

theorem find_of_mem_nodup {α β : Type} [BEq β] [LawfulBEq β] (key : α → β) :
    ∀ (l : List α) (x : α), (l.map key).Nodup → x ∈ l → l.find? (fun y => key y == key x) = some x
  | y :: l, x, hnd, hx => by
    rw [List.map_cons, List.nodup_cons] at hnd
    rcases List.mem_cons.mp hx with rfl | hx
    · simp
    · have : (key y == key x) = false :=
        beq_eq_false_iff_ne.mpr fun e => hnd.1 (e ▸ List.mem_map_of_mem hx)
      rw [List.find?_cons, this]
      exact find_of_mem_nodup key l x hnd.2 hx

theorem All₂.refl {α : Type} {R : α → α → Prop} (h : ∀ a, R a a) : ∀ l : List α, All₂ R l l
  | [] => .nil
  | a :: l => .cons (h a) (All₂.refl h l)

theorem All₂.of_map {α β : Type} {R : α → β → Prop} {f : α → β} :
    ∀ {l : List α}, (∀ a ∈ l, R a (f a)) → All₂ R l (l.map f)
  | [], _ => .nil
  | a :: _, h => .cons (h a List.mem_cons_self) (All₂.of_map fun b hb => h b (List.mem_cons_of_mem _ hb))

theorem All₂.append {α β : Type} {R : α → β → Prop} {a₁ a₂ : List α} {b₁ b₂ : List β}
    (h₁ : All₂ R a₁ b₁) (h₂ : All₂ R a₂ b₂) : All₂ R (a₁ ++ a₂) (b₁ ++ b₂) := by
  induction h₁ with
  | nil => exact h₂
  | cons h _ ih => exact .cons h ih

theorem All₂.map₂ {α β γ δ : Type} {R : α → β → Prop} {S : γ → δ → Prop} {f : α → γ} {g : β → δ}
    {l : List α} {l' : List β} (h : All₂ R l l') (hfg : ∀ a ∈ l, ∀ b, R a b → S (f a) (g b)) :
    All₂ S (l.map f) (l'.map g) := by
  induction h with
  | nil => exact .nil
  | cons hab _ ih =>
    exact .cons (hfg _ List.mem_cons_self _ hab) (ih fun a ha => hfg a (List.mem_cons_of_mem _ ha))

theorem All₂.mono {α β : Type} {R R' : α → β → Prop} {l : List α} {l' : List β}
    (h : All₂ R l l') (hm : ∀ a ∈ l, ∀ b, R a b → R' a b) : All₂ R' l l' := by
  simpa using h.map₂ (f := id) (g := id) hm

theorem All₂.map_eq {α β γ : Type} {R : α → β → Prop} {f : α → γ} {g : β → γ}
    {l₁ : List α} {l₂ : List β} (h : All₂ R l₁ l₂) (hfg : ∀ a b, R a b → f a = g b) :
    l₁.map f = l₂.map g := by
  induction h with
  | nil => rfl
  | cons h _ ih => rw [List.map_cons, List.map_cons, hfg _ _ h, ih]

theorem All₂.length_eq {α β : Type} {R : α → β → Prop} {l₁ : List α} {l₂ : List β}
    (h : All₂ R l₁ l₂) : l₁.length = l₂.length := by
  simpa using congrArg List.length (h.map_eq (f := fun _ => ()) (g := fun _ => ()) fun _ _ _ => rfl)

theorem All₂.filter₂ {α β : Type} {R : α → β → Prop} {p : α → Bool} {q : β → Bool}
    {l : List α} {l' : List β} (h : All₂ R l l') (hpq : ∀ a b, R a b → p a = q b) :
    All₂ R (l.filter p) (l'.filter q) := by
  induction h with
  | nil => exact .nil
  | @cons a b l l' hab _ ih =>
    rw [List.filter_cons, List.filter_cons, ← hpq a b hab]
    cases p a
    · exact ih
    · exact .cons hab ih

theorem All₂.split_right {α β : Type} {R : α → β → Prop} : ∀ {l : List α} {pre : List β} {p : β}
    {post : List β}, All₂ R l (pre ++ p :: post) →
    ∃ lpre m lpost, l = lpre ++ m :: lpost ∧ All₂ R lpre pre ∧ R m p ∧ All₂ R lpost post
  | _, [], _, _, .cons h hr => ⟨[], _, _, rfl, .nil, h, hr⟩
  | _, _ :: _, _, _, .cons h hr =>
    let ⟨lpre, m, lpost, e, h₁, h₂, h₃⟩ := hr.split_right
    ⟨_ :: lpre, m, lpost, e ▸ rfl, .cons h h₁, h₂, h₃⟩

theorem All₂.mem_right {α β : Type} {R : α → β → Prop} {l : List α} {l' : List β}
    (h : All₂ R l l') {b : β} (hb : b ∈ l') : ∃ a ∈ l, R a b := by
  obtain ⟨pre, post, rfl⟩ := List.append_of_mem hb
  obtain ⟨lpre, m, lpost, rfl, _, hm, _⟩ := h.split_right
  exact ⟨m, by simp, hm⟩

theorem All₂.mem_left {α β : Type} {R : α → β → Prop} {l : List α} {l' : List β}
    (h : All₂ R l l') {a : α} (ha : a ∈ l) : ∃ b ∈ l', R a b := by
  induction h with
  | nil => cases ha
  | cons hab _ ih =>
    rcases List.mem_cons.mp ha with rfl | ha
    · exact ⟨_, List.mem_cons_self, hab⟩
    · obtain ⟨b, hb, hr⟩ := ih ha
      exact ⟨b, List.mem_cons_of_mem _ hb, hr⟩

theorem All₂.eq_nil {α β : Type} {R : α → β → Prop} {l : List β} (h : All₂ R [] l) : l = [] := by
  cases h; rfl

theorem OptEquiv.eq_none {α : Type} {R : α → α → Prop} : ∀ {y : Option α}, OptEquiv R none y → y = none
  | none, _ => rfl

theorem OptEquiv.isSome_eq {α : Type} {R : α → α → Prop} : ∀ {x y : Option α},
    OptEquiv R x y → x.isSome = y.isSome
  | none, none, _ | some _, some _, _ => rfl

theorem Ex.Equiv.refl (e : Ex) : e.Equiv e := ⟨rfl, List.Perm.refl _⟩

theorem AClause.Equiv.refl : ∀ c : AClause, c.Equiv c
  | .audits e => Ex.Equiv.refl e
  | .assign _ => ⟨rfl, rfl, Ex.Equiv.refl _⟩
  | .expects _ e => ⟨rfl, Ex.Equiv.refl e⟩
  | .expectsLike _ | .watchSig _ _ | .watchVar _ | .measures _ | .onlyHelps => rfl

end Shk.Printer
