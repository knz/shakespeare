import ShkModel.Lemmas.Fsm
import ShkModel.Gen.Tables
/-!
# C01 — Audit modalities judge a period exactly by their plain meaning

Property theorems only.  `Gen.tbl n` is the table the *built code* holds for modality `n`
(regenerated on every run).  **G** marks what the kernel re-evaluates on the regenerated tables; the rest is
code-independent (`Lemmas/Fsm.lean`).
-/
namespace Shk.C01
open Shk

/-- G: `expects` accepts exactly the ten documented modalities. -/
theorem names_documented : Gen.names = Modality.all.map Modality.name := by decide +kernel

/-- G: every table uses the label order the driver model assumes. -/
theorem labels_ok : Gen.labelsOk = true := by decide +kernel

/-! ### G: per table, language equivalence with the spec monitor of its modality,
by a certificate (the reachable product) checked by the verified checker `certOk`. -/
theorem eq_always : equivCheck (implMon (Gen.tbl "always")) specAlways = true := by decide +kernel
theorem eq_never : equivCheck (implMon (Gen.tbl "never")) specNever = true := by decide +kernel
theorem eq_notAlways : equivCheck (implMon (Gen.tbl "not always")) specNotAlways = true := by decide +kernel
theorem eq_eventually : equivCheck (implMon (Gen.tbl "eventually")) specEventually = true := by decide +kernel
theorem eq_alwaysEventually :
    equivCheck (implMon (Gen.tbl "always eventually")) specAlwaysEventually = true := by decide +kernel
theorem eq_eventuallyAlways :
    equivCheck (implMon (Gen.tbl "eventually always")) specEventuallyAlways = true := by decide +kernel
theorem eq_once : equivCheck (implMon (Gen.tbl "once")) (specCount 1) = true := by decide +kernel
theorem eq_twice : equivCheck (implMon (Gen.tbl "twice")) (specCount 2) = true := by decide +kernel
theorem eq_thrice : equivCheck (implMon (Gen.tbl "thrice")) (specCount 3) = true := by decide +kernel
theorem eq_atMostOnce : equivCheck (implMon (Gen.tbl "at most once")) specAtMostOnce = true := by decide +kernel

/-! ### G: "no disappointment and no final satisfaction" is the empty language. -/
theorem end_always : equivCheck (implEndMon (Gen.tbl "always")) specFalse = true := by decide +kernel
theorem end_never : equivCheck (implEndMon (Gen.tbl "never")) specFalse = true := by decide +kernel
theorem end_notAlways : equivCheck (implEndMon (Gen.tbl "not always")) specFalse = true := by decide +kernel
theorem end_eventually : equivCheck (implEndMon (Gen.tbl "eventually")) specFalse = true := by decide +kernel
theorem end_alwaysEventually :
    equivCheck (implEndMon (Gen.tbl "always eventually")) specFalse = true := by decide +kernel
theorem end_eventuallyAlways :
    equivCheck (implEndMon (Gen.tbl "eventually always")) specFalse = true := by decide +kernel
theorem end_once : equivCheck (implEndMon (Gen.tbl "once")) specFalse = true := by decide +kernel
theorem end_twice : equivCheck (implEndMon (Gen.tbl "twice")) specFalse = true := by decide +kernel
theorem end_thrice : equivCheck (implEndMon (Gen.tbl "thrice")) specFalse = true := by decide +kernel
theorem end_atMostOnce : equivCheck (implEndMon (Gen.tbl "at most once")) specFalse = true := by decide +kernel

/-- **C01, first sentence.**  For every modality accepted by `expects` and every finite
sequence of observations of one activation period: the period contains a disappointment
report iff the sequence violates the modality's plain meaning. -/
theorem disappointed_iff_violates (m : Modality) (l : List Bool) :
    (Gen.tbl m.name).disappointed l = !(meaning m l) := by
  cases m
  · exact disappointed_of_equiv eq_always specAlways_violates l
  · exact disappointed_of_equiv eq_never specNever_violates l
  · exact disappointed_of_equiv eq_notAlways specNotAlways_violates l
  · exact disappointed_of_equiv eq_eventually specEventually_violates l
  · exact disappointed_of_equiv eq_alwaysEventually specAlwaysEventually_violates l
  · exact disappointed_of_equiv eq_eventuallyAlways specEventuallyAlways_violates l
  · exact disappointed_of_equiv eq_once (specCount_violates 1) l
  · exact disappointed_of_equiv eq_twice (specCount_violates 2) l
  · exact disappointed_of_equiv eq_thrice (specCount_violates 3) l
  · exact disappointed_of_equiv eq_atMostOnce specAtMostOnce_violates l

/-- **C01, second sentence.**  A period without disappointment ends with a reported
satisfaction (the last report of the period, the one for `end`, is `good`). -/
theorem undisappointed_ends_good (m : Modality) (l : List Bool)
    (hd : (Gen.tbl m.name).disappointed l = false) : (Gen.tbl m.name).endsGood l = true := by
  cases m
  · exact endsGood_of_equiv end_always l hd
  · exact endsGood_of_equiv end_never l hd
  · exact endsGood_of_equiv end_notAlways l hd
  · exact endsGood_of_equiv end_eventually l hd
  · exact endsGood_of_equiv end_alwaysEventually l hd
  · exact endsGood_of_equiv end_eventuallyAlways l hd
  · exact endsGood_of_equiv end_once l hd
  · exact endsGood_of_equiv end_twice l hd
  · exact endsGood_of_equiv end_thrice l hd
  · exact endsGood_of_equiv end_atMostOnce l hd

/-- every name accepted by `expects` is covered by the two theorems above. -/
theorem every_accepted_name_covered :
    ∀ n ∈ Gen.names, ∃ m : Modality, m.name = n := by
  intro n hn
  rw [names_documented] at hn
  obtain ⟨m, _, hm⟩ := List.mem_map.mp hn
  exact ⟨m, hm⟩

/-! Non-vacuity: the hypothesis of `undisappointed_ends_good` is met by a concrete period. -/
example : (Gen.tbl "eventually").disappointed [false, true, false] = false := by decide +kernel
example : (Gen.tbl "thrice").disappointed [true, false, true, true] = false := by decide +kernel

end Shk.C01
