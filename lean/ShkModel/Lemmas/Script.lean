import ShkModel.Model.Script
/-! C13: association lists of roles and of files (`lookup`, `fileOf`), what an accepted `role` section leaves
(`addActions`, `defineRole`), `precedes`. -/
namespace Shk.Script
variable {β : Type}

theorem lookup_cons (k k' : String) (v : β) (r : List (String × β)) :
    lookup k ((k', v) :: r) = if k' = k then some v else lookup k r := rfl

theorem lookup_append_new {k : String} {v : β} {l : List (String × β)} (h : lookup k l = none) :
    lookup k (l ++ [(k, v)]) = some v := by
  induction l with
  | nil => exact if_pos rfl
  | cons x l ih =>
    obtain ⟨k', v'⟩ := x
    rw [lookup_cons] at h
    rw [List.cons_append, lookup_cons]
    split at h
    · cases h
    · next e => rw [if_neg e]; exact ih h

theorem lookup_append_other {k k' : String} {v : β} {l : List (String × β)} (h : k' ≠ k) :
    lookup k (l ++ [(k', v)]) = lookup k l := by
  induction l with
  | nil => exact if_neg h
  | cons x l ih => rw [List.cons_append, lookup_cons, lookup_cons, ih]

theorem lookup_none_not_mem {k : String} {l : List (String × β)} (h : lookup k l = none) :
    k ∉ l.map Prod.fst := by
  induction l with
  | nil => exact List.not_mem_nil
  | cons x r ih =>
    obtain ⟨k', v⟩ := x
    rw [lookup_cons] at h
    split at h
    · cases h
    · next hne => exact List.not_mem_cons_of_ne_of_not_mem (Ne.symm hne) (ih h)

theorem lookup_some_mem {k : String} {v : β} {l : List (String × β)} (h : lookup k l = some v) :
    (k, v) ∈ l := by
  induction l with
  | nil => cases h
  | cons x r ih =>
    obtain ⟨k', v'⟩ := x
    rw [lookup_cons] at h
    split at h
    · next e => cases h; subst e; exact List.mem_cons_self
    · exact List.mem_cons_of_mem _ (ih h)

theorem nodup_append_new {l : List (String × β)} {k : String} {v : β}
    (hl : (l.map Prod.fst).Nodup) (hk : lookup k l = none) : ((l ++ [(k, v)]).map Prod.fst).Nodup := by
  rw [List.map_append, List.nodup_append]
  refine ⟨hl, List.pairwise_singleton _ _, fun a ha b hb e => ?_⟩
  cases List.mem_singleton.mp hb
  cases e
  exact lookup_none_not_mem hk ha

theorem addActions_eq {acc more res : List (String × String)} (h : addActions acc more = some res) :
    res = acc ++ more := by
  induction more generalizing acc with
  | nil => cases h; exact (List.append_nil _).symm
  | cons x more ih =>
    obtain ⟨n, c⟩ := x
    unfold addActions at h
    split at h
    · cases h
    · rw [ih h, List.append_assoc]; rfl

theorem addActions_nodup {acc more res : List (String × String)} (hacc : (acc.map Prod.fst).Nodup)
    (h : addActions acc more = some res) : (res.map Prod.fst).Nodup := by
  induction more generalizing acc with
  | nil => cases h; exact hacc
  | cons x r ih =>
    obtain ⟨n, c⟩ := x
    unfold addActions at h
    split at h
    · cases h
    · next hn => exact ih (nodup_append_new hacc (Option.not_isSome_iff_eq_none.mp hn)) h

theorem defineRole_some {known known' : List (String × Role)} {d : RoleDef} (hd : defineRole known d = some known') :
    lookup d.name known = none ∧
    ∃ b, (match d.parent with
        | none => some Role.empty
        | some p => lookup p known) = some b ∧
      addActions b.actions d.actions = some (b.actions ++ d.actions) ∧
      known' = known ++ [(d.name, ⟨b.actions ++ d.actions, d.spotlight.getD b.spotlight, d.cleanup.getD b.cleanup⟩)] := by
  unfold defineRole at hd
  split at hd
  · cases hd
  · next hnew =>
    split at hd
    · cases hd
    · next b hb =>
      split at hd
      · cases hd
      · next acts hacts =>
        cases addActions_eq hacts
        cases hd
        exact ⟨Option.not_isSome_iff_eq_none.mp hnew, b, hb, hacts, rfl⟩

theorem fileOf_append (k : String) (l1 l2 : List (String × β)) :
    fileOf k (l1 ++ l2) = match fileOf k l2 with
      | some x => some x
      | none => fileOf k l1 := by
  induction l1 with
  | nil => cases h : fileOf k l2 <;> simp [fileOf, h]
  | cons x l1 ih =>
    obtain ⟨k', v⟩ := x
    simp only [List.cons_append, fileOf, ih]
    cases h : fileOf k l2 <;> simp

theorem fileOf_none_of_not_mem {k : String} {l : List (String × β)}
    (h : ∀ x ∈ l, x.1 ≠ k) : fileOf k l = none := by
  induction l with
  | nil => rfl
  | cons x l ih =>
    obtain ⟨k', v⟩ := x
    rw [fileOf, ih fun y hy => h y (List.mem_cons_of_mem _ hy)]
    exact if_neg (h (k', v) List.mem_cons_self)

theorem fileOf_concat {k : String} {v : β} {l : List (String × β)} : fileOf k (l ++ [(k, v)]) = some v := by
  rw [fileOf_append, show fileOf k [(k, v)] = some v from if_pos rfl]

/-- the shape in which `written` appends the `_spotlight` and the `_cleanup` file -/
theorem fileOf_append_opt {c : Prop} [Decidable c] {k k' : String} {v : β} (l : List (String × β)) (h : k' ≠ k) :
    fileOf k (l ++ if c then [] else [(k', v)]) = fileOf k l := by
  split
  · rw [List.append_nil]
  · rw [fileOf_append, show fileOf k [(k', v)] = none from if_neg h]

theorem fileOf_map_of_mem (f : String × String → β) {acts : List (String × String)}
    (hu : (acts.map Prod.fst).Nodup) {n c : String} (hm : (n, c) ∈ acts) :
    fileOf n (acts.map fun x => (x.1, f x)) = some (f (n, c)) := by
  induction acts with
  | nil => cases hm
  | cons x acts ih =>
    obtain ⟨hx, hu⟩ := List.nodup_cons.mp hu
    rw [List.map_cons, fileOf]
    rcases List.mem_cons.mp hm with e | hm'
    · cases e
      rw [fileOf_none_of_not_mem]
      · exact if_pos rfl
      · intro y hy e
        obtain ⟨z, hz, rfl⟩ := List.mem_map.mp hy
        exact hx (List.mem_map.mpr ⟨z, hz, e⟩)
    · rw [ih hu hm']

theorem precedes_cons (x y z : Line) (l : List Line) :
    precedes x y (z :: l) = if z = x then l.contains y else precedes x y l := by
  unfold precedes
  by_cases h : z = x
  · rw [List.dropWhile_cons_of_neg (by simpa using h), if_pos h]
  · rw [List.dropWhile_cons_of_pos (by simpa using h), if_neg h]

end Shk.Script
