import ShkModel.Lemmas.PrinterStep
import ShkModel.Lemmas.PrinterReload
import ShkModel.Lemmas.PrinterFix
import ShkModel.Lemmas.Escape
import ShkModel.Lemmas.Template
import ShkModel.Gen.ClauseRe
import ShkModel.Model.TemplateTable
/-!
# C10 — the printed configuration re-loads to the same play

Model: `ShkModel/Model/Printer.lean` (`load` = `parseCfg` clause by clause, `print` = the order in
which `printCfg` emits clauses).  `mt` says which acts a `repeat from` regular expression matches;
every theorem holds for every such oracle.

A second parse of the printed text sees the same clauses; only the variables of an expression
reach `checkExpr` in the iteration order of a Go map, i.e. in any order.  `print_loads` therefore
quantifies over every list of audience clauses `A'` that is, clause by clause, the printed one up
to the order of these variables (`KEquiv`); `print_loads_same` is the special case "same order".

These theorems take a clause as its fields.  The way from `printCfg`'s bytes back to the fields is
treated after them: a clause text with newlines and backslashes is read back as one logical line
(`escaped_text_reads_back`), and a line rendered for one of the clause regexps of `parsecfg.go` that
are templates (21 of the 33) is split back into its fields (`printed_clause_lines_parse`).  For the
other regexps the correspondence K-C10 / O-C10 of `vlib/c10.py` establishes it on generated
configurations.
-/
namespace Shk.C10
open Shk.Printer
open Shk.Story (Act)

/-- **Printed configurations load, to the same play.**  For every accepted clause list `L`
(role inheritance, multi-actor casts, merged storylines, edits, repeats, audience clauses
interleaved across members in any order, `expects like`, interpretation clauses …): loading what
`printCfg` emits succeeds, and yields the same titles, roles, cast, tempo, scenes, storyline,
effective repeat settings, the same audience members in the same order with the same clauses
(watched variables up to their order) and the same interpretation of every member that expects
anything. -/
theorem print_loads (mt : String → Act → Bool) (L : List Clause) (c : Cfg) (h : load mt L = some c)
    (A' : List (String × AClause)) (hA : All₂ KEquiv (sched c.members) A') :
    ∃ c', load mt (printWith c A') = some c' ∧ Cfg.Equiv c c' :=
  reload_of_inv (inv_load h) hA

/-- … in particular when the second parse delivers the variables in the same order -/
theorem print_loads_same (mt : String → Act → Bool) (L : List Clause) (c : Cfg) (h : load mt L = some c) :
    ∃ c', load mt (print c) = some c' ∧ Cfg.Equiv c c' :=
  print_loads mt L c h (sched c.members)
    (All₂.refl (fun k => ⟨rfl, AClause.Equiv.refl k.2⟩) _)

/-- **The audience members come back in the same order** (the order in which auditors are
evaluated in each round, and in which plots are laid out). -/
theorem members_order_preserved (mt : String → Act → Bool) (L : List Clause) (c : Cfg)
    (h : load mt L = some c) (A' : List (String × AClause)) (hA : All₂ KEquiv (sched c.members) A') :
    ∃ c', load mt (printWith c A') = some c' ∧ c'.members.map (·.name) = c.members.map (·.name) := by
  obtain ⟨c', h1, h2⟩ := print_loads mt L c h A' hA
  exact ⟨c', h1, (h2.members.map_eq fun _ _ h => h.name).symm⟩

/-- **Nothing is held back for ever**: every clause of every member is printed, each exactly when
the variables it uses have been defined by printed clauses, the members being first mentioned in
their order (`Run` is a sequence of such emissions; `leftover = []`: nothing is left). -/
theorem sched_complete (mt : String → Act → Bool) (L : List Clause) (c : Cfg) (h : load mt L = some c) :
    ∃ u' ps', Run (targetsOf c.members) (c.members.map pendOf) (sched c.members) u' ps' ∧ leftover ps' = [] := by
  have hinv := inv_load h
  obtain ⟨rk, hrk⟩ := hinv.aud.ranked
  exact sched_run hrk hinv.aud.nonempty

/-- **Printing again gives the same text, up to the order of an observer's `watches` clauses.**
Exact sense (`SameText`): with the `watches` clauses taken out, the two printed clause lists are
equal clause for clause (as the text shows them: `eraseC` drops the variable list an expression
carries in the model), and every member has the same `watches` clauses in both, as a multiset.
The order of one member's `watches` can really differ: it is the order in which the second parse
met the variables. -/
theorem print_fixpoint (mt : String → Act → Bool) (L : List Clause) (c : Cfg) (h : load mt L = some c)
    (A' : List (String × AClause)) (hA : All₂ KEquiv (sched c.members) A') :
    ∃ c', load mt (printWith c A') = some c' ∧ SameText (print c) (print c') := by
  obtain ⟨c', h1, h2⟩ := print_loads mt L c h A' hA
  exact ⟨c', h1, sameText_print h2⟩

/-- the oracle `sameText` that the driver evaluates on the two texts the real program prints is
sound for this relation -/
theorem sameText_decides (a b : List Clause) (h : sameText a b = true) : SameText a b :=
  sameText_sound h

/-- **Parameters: `-D` beats the in-file default, the first definition of a name wins.**
`pVars defines defaults` is `cfg.pVars` after the command line and then the `parameter` clauses
were processed; the value substituted for `~n~` is `lookupP` of it. -/
theorem defines_precedence (defines defaults : List (String × String)) (n : String) :
    lookupP (pVars defines defaults) n = (lookupP defines n).or (lookupP defaults n) := by
  simp only [pVars, lookup_defineAll]
  simp [lookupP]

/-- the printed configuration is again one that satisfies everything a loaded one does, so the
theorems above apply to it in turn -/
theorem reload_invariant (mt : String → Act → Bool) (L : List Clause) (c : Cfg) (h : load mt L = some c) :
    ∃ c', load mt (print c) = some c' ∧ Inv mt c' := by
  obtain ⟨c', h1, _⟩ := print_loads_same mt L c h
  exact ⟨c', h1, inv_load h1⟩

/-! ## non-vacuity: a configuration with a forward use, an `expects like`, inheritance, a multi-actor
cast, a storyline and a repeat is accepted, and what it prints loads -/

def mtChar : String → Act → Bool := fun re act =>
  match re.toList with
  | [c] => act.contains c
  | _ => false

def sample : List Clause :=
  [ .title "a play",
    .role "doctor" none [.action "cure" "echo", .spotlight "tail -F log", .signal ⟨"feel", .scalar, "re"⟩],
    .role "surgeon" (some "doctor") [.action "cut" "echo", .cleanup "true"],
    .cast "w" (some 2) "surgeons" "A=1",
    .cast "bob" none "doctor" "",
    .entails 'a' (.every "surgeon") ["cure", "cut?"],
    .mood 'b' true "blue",
    .storyline ['a', '.', 'b', ' ', '.', 'a', '+', 'b'],
    .repeatFrom "b", .repeatCount (some 3),
    .aud "obs" (.watchSig (.every "surgeon") "feel"),
    .aud "aud" (.assign ⟨"v", none, ⟨"[w1 feel] + t", [.sig "w1" "feel", .comp "t"]⟩⟩),
    .aud "obs" (.watchVar "v"),
    .aud "early" (.measures "y"),
    .aud "late" (.expects "always" ⟨"v > 1", [.comp "v"]⟩),
    .aud "early" (.expectsLike "late"),
    .interp (.ignoreAll true),
    .interp (.set .require "early" false) ]

example : (load mtChar sample).isSome = true := by decide +kernel

example : ((load mtChar sample).bind fun c => load mtChar (print c)).isSome = true := by decide +kernel

/-- … and printing what was loaded from the printed text gives the same text (here exactly) -/
example : ((load mtChar sample).bind fun c => (load mtChar (print c)).map fun c' =>
    sameText (print c) (print c')) = some true := by decide +kernel

example : lookupP (pVars [("n", "3"), ("n", "4")] [("n", "5"), ("m", "1"), ("m", "2")]) "n" = some "3" ∧
    lookupP (pVars [("n", "3")] [("n", "5"), ("m", "1"), ("m", "2")]) "m" = some "1" := by decide +kernel

/-- on this sample the scheduler really has to hold clauses back: the member-by-member order of
the tree before the repairs is rejected -/
example : ((load mtChar sample).bind fun c => load mtChar (printOld c)) = none := by decide +kernel

/-! ## the tree before the repairs: four witnesses (definitions `…Old` of the model) -/

/-- **forward use.**  An observer declared before the member that computes the variable it
watches: the unrepaired `printCfg` prints `watches v` before `computes v`, and the text is rejected. -/
theorem old_forward_use_rejected :
    (load mtChar [.aud "obs" (.measures "x"),
                  .aud "aud" (.assign ⟨"v", none, ⟨"t", [.comp "t"]⟩⟩),
                  .aud "obs" (.watchVar "v")]).isSome = true ∧
    ((load mtChar [.aud "obs" (.measures "x"),
                   .aud "aud" (.assign ⟨"v", none, ⟨"t", [.comp "t"]⟩⟩),
                   .aud "obs" (.watchVar "v")]).bind fun c => load mtChar (printOld c)) = none := by
  decide +kernel

def likeSample : List Clause :=
  [ .role "r" none [.spotlight "x", .signal ⟨"s", .scalar, "re"⟩],
    .cast "bob" none "r" "",
    .aud "z" (.expects "always" ⟨"[bob s] > 2", [.sig "bob" "s"]⟩),
    .aud "y" (.expectsLike "z") ]

/-- **`expects like`.**  Before the repair the copying member did not become an observer of the
signals of the copied expectation; its printed configuration (which spells the expectation out)
loaded to an audience with one more `watches` clause. -/
theorem old_like_not_fixpoint :
    ((loadOld mtChar likeSample).map fun c => c.members.map (·.obs)) =
      some [[.sig "bob" "s"], []] ∧
    ((loadOld mtChar likeSample).bind fun c => (loadOld mtChar (printOld c)).map fun c' =>
      c'.members.map (·.obs)) = some [[.sig "bob" "s"], [.sig "bob" "s"]] := by
  decide +kernel

def inheritSample : List Clause :=
  [ .role "r" none [.spotlight "x", .signal ⟨"s", .scalar, "re1"⟩],
    .role "c" (some "r") [.signal ⟨"s", .event, "re2"⟩] ]

/-- **inherited signal declared again.**  Accepted before the repair, but what it prints was
rejected ("duplicate signal name"); the repaired parser rejects the declaration itself. -/
theorem old_inherited_signal_rejected :
    (loadOld mtChar inheritSample).isSome = true ∧
    ((loadOld mtChar inheritSample).bind fun c => loadOld mtChar (printOld c)) = none ∧
    load mtChar inheritSample = none := by
  decide +kernel

def staleSample : List Clause :=
  [ .role "r" none [.action "a" "true"],
    .cast "bob" none "r" "",
    .entails 'a' (.actor "bob") ["a"],
    .entails 'b' (.actor "bob") ["a"],
    .storyline ['a'],
    .repeatFrom "a",
    .repeatFrom "b" ]

/-- **stale repeat.**  `repeat from b` matches no act, but the unrepaired `updateRepeat` kept the act
found for the earlier `repeat from a`: the play repeated from act 1, the printed configuration
repeats nothing. -/
theorem old_stale_repeat :
    ((loadOld mtChar staleSample).map fun c => c.repAct) = some 1 ∧
    ((loadOld mtChar staleSample).bind fun c => (loadOld mtChar (printOld c)).map fun c' => c'.repAct) = some 0 ∧
    ((load mtChar staleSample).map fun c => c.repAct) = some 0 := by
  decide +kernel

/-! ## The text layer: `escapeNl` against the reader's continuation lines

The theorems above treat clause texts as opaque; between `printCfg` and the next `parseCfg` a text travels as
bytes: `escapeNl` (config.go) puts a backslash before every newline of the text, the file is cut into physical
lines at the newlines, and the reader (`gather`, the loop of `readLine` modelled for C09) joins the lines that
end in a backslash.  `pre` is what `printCfg` writes before the text on the same line (indentation, keyword,
names), `rest` the physical lines that follow. -/
section text
open Shk.Preproc Shk.Reader Shk.Escape

/-- **An escaped text is read back as one logical line holding the same text**, whatever it contains
(newlines from continuation lines of the original, backslashes anywhere, a final backslash): the reader
consumes exactly the physical lines of this clause (`nls t + 1` of them), leaves `rest` untouched, and the
logical line is `pre ++ t` — followed by the single blank `escapeNl` appends after a final backslash, which
the reader's `TrimSpace` removes. -/
theorem escaped_text_reads_back (tail : Bytes) (bad : Bool) (rest : List Bytes) (pre t : Bytes)
    (hpre : 10 ∉ pre) (h : t ≠ [] ∨ endsBackslash pre = false) :
    gather tail bad [] (splitNl [] (pre ++ escapeNl t) ++ rest) 0
      = .line (pre ++ t ++ fin t) rest (nls t + 1) false := by
  unfold escapeNl
  rw [splitNl_prefix pre hpre, List.nil_append, ← fin_prefix pre t h, gather_escape]
  simp

/-- the appended blank is there exactly when the text ends in a backslash -/
theorem fin_spec (t : Bytes) : fin t = if t.getLast? = some 92 then [32] else [] := by
  unfold fin endsBackslash; by_cases h : t.getLast? = some 92 <;> simp [h]

/-- **before the repair (6cb11bb)** a text ending in a backslash swallowed the next physical line:
`:a printf x\` followed by `end` was read back as one clause `:a printf x` NL `end`. -/
theorem old_final_backslash_swallows_next_line :
    gather [] false [] (splitNl [] ([58, 97, 32] ++ escapeNlOld [120, 92]) ++ [[101, 110, 100]]) 0
      = .line [58, 97, 32, 120, 10, 101, 110, 100] [] 2 false ∧
    gather [] false [] (splitNl [] ([58, 97, 32] ++ escapeNl [120, 92]) ++ [[101, 110, 100]]) 0
      = .line [58, 97, 32, 120, 92, 32] [[101, 110, 100]] 1 false := by
  decide +kernel

/-- non-vacuity: a three-line text with an inner and a final backslash -/
example : gather [] false [] (splitNl [] ([32, 32] ++ escapeNl [97, 92, 10, 98, 10, 99, 92]) ++ [[101]]) 0
    = .line ([32, 32] ++ [97, 92, 10, 98, 10, 99, 92] ++ [32]) [[101]] 3 false := by decide +kernel

end text

/-! ## Clause lines: what `printCfg` writes is what the clause regexps of `parsecfg.go` take apart

`printCfg` writes a clause as its keywords and fields separated by single blanks.  For the clause
regexps that are *templates* — keywords, `\s+`, `(\S+)` words, ending in `(.*)$`, `$` or `\s*$`;
21 of the 33 — the regenerated regexp (`Gen.*Re`, translated from the Go source on every run) is
recognised by `templateOf`, which reads the template off the regexp (`templates_are_the_regexps`), and for every
template the backtracking matcher (`Re.run`, the model of `FindStringSubmatch` tied to Go's `regexp`
by K-RE) takes a rendered line apart into exactly the fields it was rendered from, for all fields. -/
section clause_lines
open Shk.Re Shk.Tpl

/-- **the clause regexps in the table are their templates**: whatever `templateOf` reads off a regexp of the current
source compiles back to exactly that regexp (`templateOf_sound`, proved for every regexp) -/
theorem templates_are_the_regexps : ∀ e ∈ clauseTemplates, e.1 = Tpl.re e.2.1 e.2.2 := by
  intro e he
  simp only [clauseTemplates, namedTemplates, List.mem_map, List.mem_filterMap, Option.map_eq_some_iff] at he
  obtain ⟨x, ⟨g, _, t, ht, hx⟩, hxe⟩ := he
  subst hx; subst hxe
  exact templateOf_sound g.2 t.1 t.2 (by simpa using ht)

/-- the group numbers of every template are distinct and none is 0 (span 0 is the whole match) -/
theorem templates_well_numbered :
    ∀ e ∈ clauseTemplates, (groupsOf e.2.1 e.2.2).Nodup ∧ ∀ i ∈ groupsOf e.2.1 e.2.2, 1 ≤ i := by decide +kernel

/-- **A printed clause line is parsed back into its fields.**  For every template, every list of words (non-empty,
free of white space) and every trailing text that does not begin with white space: the matcher accepts the rendered
line — keywords and fields separated by single blanks —, span 0 is the whole line, and the capture of every group
cuts exactly the field that was printed there. -/
theorem printed_clause_line_parses (T : List Tok) (f : Fin) (words : List (List Char)) (r : List Char)
    (hok : Ok T f words r = true) (hnd : (groupsOf T f).Nodup) (hpos : ∀ i ∈ groupsOf T f, 1 ≤ i) :
    ∃ c, run (Tpl.re T f) (render T f words r) = some c ∧
      c[0]? = some (some (0, (render T f words r).length)) ∧
      ∀ i fld, (i, fld) ∈ fieldsOf T f words r →
        ∃ a b, c[i]? = some (some (a, b)) ∧ slice (render T f words r) a b = fld := by
  refine ⟨_, run_render T f words r hok, by simp [spans], ?_⟩
  intro i fld hmem
  have hfields := caps_are_fields (render T f words r) T f words r 0 hok (by simp)
  rw [← hfields] at hmem
  obtain ⟨e, he, heq⟩ := List.mem_map.mp hmem
  obtain ⟨k, a, b⟩ := e
  simp only [Prod.mk.injEq] at heq
  obtain ⟨hk, hs⟩ := heq
  subst hk
  have hkeys := capsOf_keys T f words r 0 hok
  have hlook : (capsOf T f words r 0).lookup k = some (a, b) :=
    lookup_of_mem_nodup (by rw [hkeys]; exact hnd) he
  have hkin : k ∈ groupsOf T f := by rw [← hkeys]; exact List.mem_map.mpr ⟨_, he, rfl⟩
  have h1 := hpos k hkin
  have hle : k ≤ ngroups (Tpl.re T f) := by
    have := group_le_ngroups T f k hkin
    simp [Tpl.re, ngroups]; omega
  refine ⟨a, b, ?_, hs⟩
  obtain ⟨j, rfl⟩ : ∃ j, k = j + 1 := ⟨k - 1, by omega⟩
  simp only [spans, List.getElem?_cons_succ]
  rw [List.getElem?_map, List.getElem?_range (by omega)]
  simp [hlook]

/-- `printed_clause_line_parses` applies to every template regexp of the current source -/
theorem printed_clause_lines_parse :
    ∀ e ∈ clauseTemplates, ∀ (words : List (List Char)) (r : List Char), Ok e.2.1 e.2.2 words r = true →
      ∃ c, run e.1 (render e.2.1 e.2.2 words r) = some c ∧
        ∀ i fld, (i, fld) ∈ fieldsOf e.2.1 e.2.2 words r →
          ∃ a b, c[i]? = some (some (a, b)) ∧ slice (render e.2.1 e.2.2 words r) a b = fld := by
  intro e he words r hok
  have hwn := templates_well_numbered e he
  obtain ⟨c, hc, _, hf⟩ := printed_clause_line_parses e.2.1 e.2.2 words r hok hwn.1 hwn.2
  exact ⟨c, by rw [templates_are_the_regexps e he]; exact hc, hf⟩

/-- non-vacuity: `judge computes y as t > 0.9 ? 1 : 0` through the regenerated `computesRe` -/
example : run (byName "computesRe") "judge computes y as t > 0.9 ? 1 : 0".toList
    = some [some (0, 35), some (0, 5), some (15, 16), some (20, 35)] := by
  rw [String.toList_ofList]; decide +kernel

end clause_lines

end Shk.C10
