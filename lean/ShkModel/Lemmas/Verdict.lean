import ShkModel.Model.Verdict
import ShkModel.Model.Conduct
/-! C03 (and, for the conductor's stages, C05): what `fouledBy`, the table operations, the collector,
`combine` / `finish` and `awaitStage` do on each form of input, and the invariant `Doomed` behind the `-S` theorems. -/
namespace Shk.C03
open Shk.Verdict

theorem fouledBy_atEnd (c : FoulCond) (n : Nat) :
    fouledBy c n true = true ↔ (c = .uponNonZero ∧ n > 0) ∨ (c = .uponZero ∧ n = 0) := by
  cases c <;> simp [fouledBy]

theorem fouledBy_now (c : FoulCond) (n : Nat) : fouledBy c n false = true ↔ c = .uponNonZero ∧ n > 0 := by
  cases c <;> simp [fouledBy]

theorem fouledBy_mono {c : FoulCond} {n k : Nat} (atEnd : Bool) (hk : n ≤ k) (h : fouledBy c n false = true) :
    fouledBy c k atEnd = true := by
  obtain ⟨rfl, hn⟩ := (fouledBy_now c n).mp h
  exact decide_eq_true (Nat.lt_of_lt_of_le hn hk)

theorem get_with (i : Interp) (r r' : Res) (f : FoulCond) :
    (i.with r' f).get r = if r' = r then f else i.get r := by
  cases r <;> cases r' <;> rfl

theorem default_get (r : Res) : ({} : Interp).get r = defaultOf r := by cases r <;> rfl

theorem lookup_map_snd (t : Table) (g : String → Interp → Interp) (n : String) :
    (t.map fun p => (p.1, g p.1 p.2)).lookup n = (t.lookup n).map (g n) := by
  induction t with
  | nil => rfl
  | cons p t ih =>
    obtain ⟨a, i⟩ := p
    simp only [List.map_cons, List.lookup_cons]
    cases h : n == a
    · exact ih
    · rw [eq_of_beq h]; rfl

theorem lookup_mem {t : Table} {n : String} {i : Interp} (h : t.lookup n = some i) : (n, i) ∈ t := by
  obtain ⟨l₁, l₂, rfl, _⟩ := List.lookup_eq_some_iff.mp h
  exact List.mem_append_right _ List.mem_cons_self

/-- the mode of (n, r) in a table, default when n is not (yet) an audience member -/
def modeIn (t : Table) (n : String) (r : Res) : FoulCond :=
  match t.lookup n with
  | some i => i.get r
  | none => defaultOf r

theorem modeIn_append (t : Table) (m n : String) (r : Res) :
    modeIn (t ++ [(m, ({} : Interp))]) n r = modeIn t n r := by
  simp only [modeIn, List.lookup_append]
  cases t.lookup n with
  | some i => rfl
  | none =>
    simp only [Option.none_or, List.lookup_cons, List.lookup_nil]
    cases n == m <;> simp only [default_get]

theorem lookup_isSome_append (t : Table) (m n : String) :
    ((t ++ [(m, ({} : Interp))]).lookup n).isSome = ((t.lookup n).isSome || m == n) := by
  rw [List.lookup_append, Option.isSome_or, List.lookup_cons, List.lookup_nil, Bool.beq_comm (a := m)]
  cases n == m <;> rfl

theorem modeIn_map (t : Table) (g : String → Interp → Interp) (n : String) (r : Res) :
    modeIn (t.map fun p => (p.1, g p.1 p.2)) n r =
      match t.lookup n with
      | some i => (g n i).get r
      | none => defaultOf r := by
  rw [modeIn, lookup_map_snd]; cases t.lookup n <;> rfl

theorem lookup_isSome_map (t : Table) (g : String → Interp → Interp) (n : String) :
    ((t.map fun p => (p.1, g p.1 p.2)).lookup n).isSome = (t.lookup n).isSome := by
  rw [lookup_map_snd, Option.isSome_map]

/-- later clauses override earlier ones, from any table `t0` (a configuration starts from the empty one) -/
theorem interp_last_wins_from (ops : List Op) (t0 t : Table) (n : String) (r : Res)
    (h : applyOps t0 ops = some t) :
    modeIn t n r = lastWins n r (t0.lookup n).isSome (modeIn t0 n r) ops := by
  induction ops generalizing t0 with
  | nil => cases h; rfl
  | cons o os ih =>
    simp only [applyOps] at h
    cases hq : applyOp t0 o with
    | none => rw [hq] at h; cases h
    | some t1 =>
      rw [hq] at h
      rw [ih t1 h]
      -- in each case the right side unfolds (`rfl`) to `lastWins` on `os` from the stepped state: it remains to
      -- see that the table after the step is in that state
      cases o with
      | member m =>
        simp only [applyOp] at hq
        split at hq <;> cases hq
        · rename_i hm
          have : ((t0.lookup n).isSome || m == n) = (t0.lookup n).isSome := by
            cases hmn : m == n
            · exact Bool.or_false _
            · rw [← eq_of_beq hmn, hm]; rfl
          exact (congrArg (lastWins n r · (modeIn t0 n r) os) this).symm
        · rw [modeIn_append, lookup_isSome_append]; rfl
      | ignoreAll r' =>
        cases hq
        rw [modeIn_map t0 fun _ i => i.with r' .ignore, lookup_isSome_map t0 fun _ i => i.with r' .ignore]
        refine congrArg (lastWins n r _ · os) ?_
        cases h0 : t0.lookup n with
        | none => simp [modeIn, h0]
        | some i => simp [modeIn, h0, get_with]
      | set mode m r' =>
        simp only [applyOp] at hq
        split at hq <;> cases hq
        rename_i hm
        rw [modeIn_map t0 fun a i => if a = m then i.with r' mode else i,
          lookup_isSome_map t0 fun a i => if a = m then i.with r' mode else i]
        refine congrArg (lastWins n r _ · os) ?_
        cases h0 : t0.lookup n with
        | none =>
          have : (m == n) = false := by
            cases hmn : m == n
            · rfl
            · rw [eq_of_beq hmn, h0] at hm; cases hm
          simp [modeIn, h0, this]
        | some i =>
          by_cases hnm : n = m
          · subst hnm; simp [modeIn, h0, get_with]
          · have : (m == n) = false := by simpa using fun e : m = n => hnm e.symm
            simp [modeIn, h0, hnm, this]

theorem bump_hasData (ty : Tally) (code : Nat) : (bump ty code).hasData = true := by
  unfold bump; split
  · rfl
  · split <;> rfl

theorem bump_mono (ty : Tally) (code : Nat) : ty.bad ≤ (bump ty code).bad ∧ ty.good ≤ (bump ty code).good := by
  unfold bump; split
  · exact ⟨Nat.le_refl _, Nat.le_succ _⟩
  · split
    · exact ⟨Nat.le_succ _, Nat.le_refl _⟩
    · exact ⟨Nat.le_refl _, Nat.le_refl _⟩

theorem collectReport_false (t : Table) (s : ColSt) (r : Report) : (collectReport t false s r).2 = false := by
  simp only [collectReport, stopNow, Bool.false_eq_true, if_false, ite_self]

theorem collectAll_false_cons (t : Table) (s : ColSt) (r : Report) (rs : List Report) :
    collectAll t false s (r :: rs) = collectAll t false (collectReport t false s r).1 rs := by
  rw [collectAll, if_neg (by rw [collectReport_false]; exact Bool.false_ne_true)]

theorem collectAll_false_append (t : Table) (s : ColSt) (l1 l2 : List Report) :
    (collectAll t false s (l1 ++ l2)).1 = (collectAll t false (collectAll t false s l1).1 l2).1 := by
  induction l1 generalizing s with
  | nil => rfl
  | cons r l1 ih => rw [List.cons_append, collectAll_false_cons, collectAll_false_cons, ih]

/-- a foul that cannot go away: an audit error was counted, or an auditor with data has a count that a `foul upon` clause
forbids (counts only grow; a `require` clause can only be judged at the end and is not among these) -/
def Doomed (t : Table) (s : ColSt) : Prop :=
  s.errors > 0 ∨ ∃ p ∈ t, (s.tally p.1).hasData = true ∧
    (fouledBy p.2.onBad (s.tally p.1).bad false = true ∨ fouledBy p.2.onGood (s.tally p.1).good false = true)

theorem Doomed.fouls {t : Table} {s : ColSt} (h : Doomed t s) : fouls t s.tally s.errors = true := by
  simp only [Shk.Verdict.fouls, Bool.or_eq_true, decide_eq_true_eq, List.any_eq_true, Bool.and_eq_true]
  exact h.imp_right fun ⟨p, hp, hd, hf⟩ =>
    ⟨p, hp, hd, hf.imp (fouledBy_mono true (Nat.le_refl _)) (fouledBy_mono true (Nat.le_refl _))⟩

theorem Doomed.step {t : Table} {s : ColSt} (e : Bool) (r : Report) (h : Doomed t s) :
    Doomed t (collectReport t e s r).1 := by
  rcases h with h | ⟨p, hp, hd, hf⟩
  · left; simp only [collectReport]; split <;> omega
  · refine Or.inr ⟨p, hp, ?_⟩
    simp only [collectReport]
    split
    · rename_i hn
      rw [hn] at hd hf
      exact ⟨bump_hasData _ _, hf.imp (fouledBy_mono false (bump_mono _ _).1) (fouledBy_mono false (bump_mono _ _).2)⟩
    · exact ⟨hd, hf⟩

theorem Doomed.run {t : Table} (rs : List Report) {s : ColSt} (h : Doomed t s) :
    Doomed t (collectAll t false s rs).1 := by
  induction rs generalizing s with
  | nil => exact h
  | cons r rs ih => rw [collectAll_false_cons]; exact ih (h.step false r)

theorem Doomed.of_stop {t : Table} {s : ColSt} {r : Report} (b : Bool)
    (h : (collectReport t true s r).2 = true) : Doomed t (collectReport t b s r).1 := by
  simp only [collectReport, stopNow] at h ⊢
  split at h
  · cases h
  · split at h
    · rename_i h1; left; simp only [h1, if_true]; omega
    · cases hl : t.lookup r.auditor with
      | none => simp [hl] at h
      | some i =>
        simp only [hl, if_true, Bool.or_eq_true] at h
        exact Or.inr ⟨(r.auditor, i), lookup_mem hl, by simp only [if_true]; exact ⟨bump_hasData _ _, h⟩⟩

theorem stop_dooms (t : Table) (s : ColSt) (rs : List Report) (h : (collectAll t true s rs).2 = true) :
    Doomed t (collectAll t true s rs).1 ∧ Doomed t (collectAll t false s rs).1 := by
  induction rs generalizing s with
  | nil => cases h
  | cons r rs ih =>
    rw [collectAll_false_cons]
    rw [collectAll] at h ⊢
    by_cases hx : (collectReport t true s r).2 = true
    · rw [if_pos hx]; exact ⟨.of_stop true hx, .run rs (.of_stop false hx)⟩
    · rw [if_neg hx] at h ⊢; exact ih _ h

theorem combine_isSome (a b : Option Err) : (combine a b).isSome = (a.isSome || b.isSome) := by
  cases a <;> cases b <;> rfl

theorem finish_isSome (stage : Option Err) (v : Bool) (cl : Option Err) :
    (finish stage v cl).isSome = (stage.isSome || v || cl.isSome) := by
  rw [finish.eq_def, combine_isSome]
  cases stage with
  | none => cases v <;> rfl
  | some e => obtain ⟨_, au⟩ := e; cases au <;> cases v <;> rfl

theorem exitCode_eq_zero (e : Option Err) : exitCode e = 0 ↔ e.isSome = false := by
  cases e <;> simp [exitCode]

section stages
open Shk.Conduct

theorem awaitStage_interrupt_needs_error (own : Comp) (later seen : List Comp) (arrs : List Arrival)
    (h : (awaitStage own later seen arrs).interrupt = true) : ∃ a ∈ arrs, a.err = true := by
  fun_induction awaitStage own later seen arrs with
  | case1 => cases h
  | case2 => cases h
  | case3 => cases h
  | case4 seen a rest _ _ _ he => exact ⟨a, List.mem_cons_self, he⟩
  | case5 seen a rest _ _ _ _ ih =>
    obtain ⟨b, hb, hbe⟩ := ih h
    exact ⟨b, List.mem_cons_of_mem _ hb, hbe⟩
  | case6 seen a rest _ _ _ r ih =>
    obtain ⟨b, hb, hbe⟩ := ih h
    exact ⟨b, List.mem_cons_of_mem _ hb, hbe⟩

theorem awaitStage_rest_sub (own : Comp) (later seen : List Comp) (arrs : List Arrival) :
    ∀ a ∈ (awaitStage own later seen arrs).rest, a ∈ arrs := by
  fun_induction awaitStage own later seen arrs with
  | case1 => exact fun _ h => h
  | case2 => exact fun _ h => h
  | case3 seen a rest => exact fun _ h => List.mem_cons_of_mem _ h
  | case4 seen a rest => exact fun _ h => List.mem_cons_of_mem _ h
  | case5 seen a rest _ _ _ _ ih => exact fun b h => List.mem_cons_of_mem _ (ih b h)
  | case6 seen a rest _ _ _ r ih =>
    exact fun b h => (List.mem_cons.mp h).elim (fun e => e ▸ List.mem_cons_self) fun h => List.mem_cons_of_mem _ (ih b h)

theorem conductWith_not_cancelled {stage : Comp → List Comp → List Comp → List Arrival → StageRes}
    {P : List Arrival → Prop}
    (hint : ∀ own later seen l, P l → (stage own later seen l).interrupt = false)
    (hrest : ∀ own later seen l, P l → P (stage own later seen l).rest) {arrs : List Arrival} (h : P arrs) :
    (conductWith stage arrs).cancelledCollector = false := by
  have h2 := hrest .pr [.sp, .au, .col] [] arrs h
  have h3 := hrest .sp [.au, .col] (stage .pr [.sp, .au, .col] [] arrs).seen _ h2
  -- no stage interrupts, and every other way out of `conductWith` leaves the collector alone
  simp only [conductWith, hint _ _ _ _ h, hint _ _ _ _ h2, hint _ _ _ _ h3, Bool.false_eq_true, if_false,
    apply_ite Outcome.cancelledCollector, ite_self]

end stages
end Shk.C03
