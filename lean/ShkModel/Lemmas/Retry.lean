import ShkModel.Model.Retry
/-! C17: the back-off band in exact rationals; `next` / `nextCh` / `reset` on each form of state; and three
inductions over a run — a budget that every yielded attempt uses up, the invariant that ties `attempt` to the
waits handed out, and the simulation `Sim` between the loop and the monitor of the property. -/
namespace Shk.Retry

/-- option sets for which the band statement is meaningful: nothing negative. -/
structure Valid (o : Opts) : Prop where
  initial : 0 ≤ o.initial
  maxB : 0 ≤ o.maxB
  mult : 0 ≤ o.mult
  rand : 0 ≤ o.rand

/-- for concrete options: the four bounds as one decidable proposition -/
theorem Valid.of_and {o : Opts} (h : 0 ≤ o.initial ∧ 0 ≤ o.maxB ∧ 0 ≤ o.mult ∧ 0 ≤ o.rand) : Valid o :=
  ⟨h.1, h.2.1, h.2.2.1, h.2.2.2⟩

theorem backoff_eq_spec (o : Opts) (n : Nat) : backoff o n = specBackoff o n := by
  simp only [backoff, specBackoff, Rat.min_def]
  by_cases h : o.maxB < o.initial * o.mult ^ n
  · have : ¬ o.initial * o.mult ^ n ≤ o.maxB := Rat.not_le.mpr h
    simp [h, this]
  · have : o.initial * o.mult ^ n ≤ o.maxB := Rat.not_lt.mp h
    simp [h, this]

theorem backoff_nonneg {o : Opts} (hv : Valid o) (n : Nat) : 0 ≤ backoff o n := by
  simp only [backoff]
  split
  · exact hv.maxB
  · exact Rat.mul_nonneg hv.initial (Rat.pow_nonneg hv.mult)

theorem backoff_le_max (o : Opts) (n : Nat) : backoff o n ≤ o.maxB := by
  simp only [backoff]
  split
  · exact Rat.le_refl
  · rename_i h; exact Rat.not_lt.mp h

theorem backoff_le_of_prod_le {o : Opts} {n k : Nat} (h : o.initial * o.mult ^ n ≤ o.initial * o.mult ^ k) :
    backoff o n ≤ backoff o k := by
  simp only [backoff]
  split
  · split
    · exact Rat.le_refl
    · rename_i h1 h2; exact absurd h1 (Rat.not_lt.mpr (Rat.le_trans h (Rat.not_lt.mp h2)))
  · rename_i h1
    split
    · exact Rat.not_lt.mp h1
    · exact h

theorem band_arith (lo d u : Rat) (hd : 0 < d) (hu0 : 0 ≤ u) (hu1 : u < 1) :
    lo ≤ lo + u * d ∧ lo + u * d < lo + d := by
  constructor
  · have := Rat.add_le_add_left (c := lo).mpr (Rat.mul_nonneg hu0 (Rat.le_of_lt hd))
    rwa [Rat.add_zero] at this
  · have := Rat.mul_lt_mul_of_pos_right hu1 hd
    rw [Rat.one_mul] at this
    exact Rat.add_lt_add_left.mpr this

/-- `retryIn` draws from the interval of width `2rb + 1` that begins at `b - rb` -/
theorem retryInExact_band (o : Opts) (hv : Valid o) (n : Nat) (u : Rat) (hu0 : 0 ≤ u) (hu1 : u < 1) :
    bandLo o n ≤ retryInExact o n u ∧ retryInExact o n u < bandHi o n := by
  have hrb := Rat.mul_nonneg hv.rand (backoff_nonneg hv n)
  have hhi : bandHi o n = bandLo o n + (2 * (o.rand * backoff o n) + 1) := by
    simp only [bandLo, bandHi, ← backoff_eq_spec]; grind
  rw [hhi]
  simp only [bandLo, retryInExact, ← backoff_eq_spec]
  exact band_arith _ _ u (by grind) hu0 hu1

theorem bandHi_le_cap {o : Opts} (hr : 0 ≤ o.rand) (n : Nat) : bandHi o n ≤ o.maxB + o.rand * o.maxB + 1 := by
  have hle := backoff_le_max o n
  have := Rat.mul_le_mul_of_nonneg_left hle hr
  simp only [bandHi, ← backoff_eq_spec]
  grind

theorem truncNs_of_nonneg {x : Rat} (h : 0 ≤ x) : truncNs x = x.floor := by
  simp only [truncNs]
  have : ¬ x < 0 := Rat.not_lt.mpr h
  simp [this]

theorem retryIn_band (o : Opts) (hv : Valid o) (hr1 : o.rand ≤ 1) (n : Nat) (u : Rat)
    (hu0 : 0 ≤ u) (hu1 : u < 1) :
    (bandLo o n).floor ≤ retryIn o n u ∧ bandLo o n - 1 < (retryIn o n u : Rat) ∧
    (retryIn o n u : Rat) < bandHi o n := by
  have hb := retryInExact_band o hv n u hu0 hu1
  have hlo : 0 ≤ bandLo o n := by
    simp only [bandLo, ← backoff_eq_spec]
    have h1 : 0 ≤ (1 - o.rand) * backoff o n := Rat.mul_nonneg (by grind) (backoff_nonneg hv n)
    grind
  have hx : 0 ≤ retryInExact o n u := Rat.le_trans hlo hb.1
  simp only [retryIn, truncNs_of_nonneg hx]
  have h1 := Rat.floor_le (retryInExact o n u)
  have h2 := Rat.lt_floor_add_one (retryInExact o n u)
  refine ⟨Rat.floor_monotone hb.1, ?_, ?_⟩
  · have : ((retryInExact o n u).floor + 1 : Int) = ((retryInExact o n u).floor : Rat) + 1 := by
      simp [Rat.intCast_add]
    grind
  · grind

theorem run_append (o : Opts) (s : St) (a b : List Op) :
    run o s (a ++ b) = ((run o (run o s a).1 b).1, (run o s a).2 ++ (run o (run o s a).1 b).2) := by
  induction a generalizing s with
  | nil => simp [run]
  | cons x xs ih => simp [run, ih]

theorem yields_append (a b : List Out) : yields (a ++ b) = yields a + yields b := by
  simp [yields]

theorem yields_cons (x : Out) (l : List Out) :
    yields (x :: l) = x.isYield.toNat + yields l := by
  simp only [yields, List.filter_cons]
  cases x.isYield <;> simp <;> omega

/-- `MaxRetries` bounds the retries made so far: `Next` is done, `NextCh` returns nil -/
abbrev Exhausted (o : Opts) (s : St) : Prop := 0 < o.maxRetries ∧ o.maxRetries ≤ (s.attempt : Int)

/-! ### `next` / `nextCh` / `reset` on each form of state (the branches of the Go code, one per lemma) -/

theorem next_fresh {o : Opts} {s : St} (w : Wait) (h : s.isReset = true) :
    next o s w = ({ s with isReset := false }, .yieldNow) := by
  simp [next, h]

theorem next_done {o : Opts} {s : St} (w : Wait) (hr : s.isReset = false) (h : Exhausted o s) :
    next o s w = (s, .done) := by
  simp [next, hr, h]

theorem next_halted {o : Opts} {s : St} (w : Wait) (hr : s.isReset = false) (h : ¬ Exhausted o s)
    (hs : s.stopped = true) : next o s w = (s, .halted) := by
  simp only [next, hr, Bool.false_eq_true, if_false, h, hs, if_true]

theorem next_elapses {o : Opts} {s : St} (u : Rat) (hr : s.isReset = false) (h : ¬ Exhausted o s)
    (hs : s.stopped = false) :
    next o s (.elapses u) = ({ s with attempt := s.attempt + 1, waited := s.waited + 1 }, .yieldAfter s.attempt u) := by
  simp only [next, hr, Bool.false_eq_true, if_false, h, hs]

theorem next_closerFires {o : Opts} {s : St} (hr : s.isReset = false) (h : ¬ Exhausted o s)
    (hs : s.stopped = false) : next o s .closerFires = ({ s with closed := true }, .halted) := by
  simp only [next, hr, Bool.false_eq_true, if_false, h, hs]

theorem next_ctxFires {o : Opts} {s : St} (hr : s.isReset = false) (h : ¬ Exhausted o s)
    (hs : s.stopped = false) : next o s .ctxFires = ({ s with cancelled := true }, .halted) := by
  simp only [next, hr, Bool.false_eq_true, if_false, h, hs]

theorem nextCh_fresh {o : Opts} {s : St} (u : Rat) (h : s.isReset = true) :
    nextCh o s u = ({ s with isReset := false }, .chClosed) := by
  simp [nextCh, h]

theorem nextCh_nil {o : Opts} {s : St} (u : Rat) (hr : s.isReset = false) (h : Exhausted o s) :
    nextCh o s u = ({ s with attempt := s.attempt + 1 }, .chNil) := by
  simp only [nextCh, hr, Bool.false_eq_true, if_false, h, and_self, if_true]

theorem nextCh_timer {o : Opts} {s : St} (u : Rat) (hr : s.isReset = false) (h : ¬ Exhausted o s) :
    nextCh o s u = ({ s with attempt := s.attempt + 1, waited := s.waited + 1 }, .chTimer s.attempt u) := by
  simp only [nextCh, hr, Bool.false_eq_true, if_false, h]

theorem reset_live {s : St} (h : s.stopped = false) : reset s = { s with attempt := 0, isReset := true, waited := 0 } := by
  simp [reset, h]

theorem reset_stopped {s : St} (h : s.stopped = true) : reset s = s := by
  simp [reset, h]

theorem start_stopped {c x : Bool} (h : (c || x) = true) : start c x = ⟨0, false, c, x, 0⟩ := by
  simp [start, reset, St.stopped, h]

theorem next_stopped {o : Opts} {s : St} (w : Wait) (hs : s.stopped = true) (hr : s.isReset = false) :
    (next o s w).2.isYield = false ∧ (next o s w).2.isWait = false ∧ (next o s w).1 = s := by
  by_cases he : Exhausted o s
  · rw [next_done w hr he]; exact ⟨rfl, rfl, rfl⟩
  · rw [next_halted w hr he hs]; exact ⟨rfl, rfl, rfl⟩

theorem next_elapses_live {o : Opts} {s : St} (u : Rat) (hs : s.stopped = false) (he : ¬ Exhausted o s) :
    (next o s (.elapses u)).2.isYield = true ∧ (next o s (.elapses u)).1.stopped = false := by
  by_cases hr : s.isReset = true
  · rw [next_fresh _ hr]; exact ⟨rfl, hs⟩
  · rw [next_elapses u (by simpa using hr) he hs]; exact ⟨rfl, hs⟩

/-- attempts still to come before `MaxRetries = m` is used up: the pending immediate one, and one per retry left -/
def budget (m : Nat) (s : St) : Nat := s.isReset.toNat + (m - s.attempt)

theorem budget_le (m : Nat) (s : St) : budget m s ≤ m + 1 := by
  rw [Nat.add_comm m]; exact Nat.add_le_add (Bool.toNat_le _) (Nat.sub_le _ _)

theorem budget_step (o : Opts) (m : Nat) (ho : o.maxRetries = (m : Int)) (hm : 0 < m) (s : St) (op : Op)
    (hop : op ≠ .reset) : (step o s op).2.isYield.toNat + budget m (step o s op).1 ≤ budget m s := by
  cases op with
  | reset => exact absurd rfl hop
  | close => exact Nat.le_of_eq (Nat.zero_add _)
  | cancel => exact Nat.le_of_eq (Nat.zero_add _)
  -- a yield clears `isReset` or, while `attempt < m`, raises `attempt`; no other branch raises the budget
  | next w =>
    simp only [step]
    fun_cases next o s w <;> simp [budget, Out.isYield, *] <;> omega
  | nextCh u =>
    simp only [step]
    fun_cases nextCh o s u <;> simp [budget, Out.isYield, *] <;> omega

theorem yields_le_budget (o : Opts) (m : Nat) (ho : o.maxRetries = (m : Int)) (hm : 0 < m)
    (ops : List Op) (hnr : ∀ op ∈ ops, op ≠ Op.reset) (s : St) :
    yields (run o s ops).2 ≤ budget m s := by
  induction ops generalizing s with
  | nil => exact Nat.zero_le _
  | cons op ops ih =>
    rw [List.forall_mem_cons] at hnr
    have := budget_step o m ho hm s op hnr.1
    have := ih hnr.2 (step o s op).1
    rw [run, yields_cons]
    omega

/-- `attempt` equals the number of waits since the last effective Reset, unless `NextCh` has run
the counter past the bound (then nothing is yielded any more). -/
def SchedInv (o : Opts) (s : St) : Prop :=
  s.attempt = s.waited ∨ (0 < o.maxRetries ∧ o.maxRetries < (s.attempt : Int))

theorem schedInv_start (o : Opts) (c x : Bool) : SchedInv o (start c x) := by
  rw [start, reset]; split <;> exact .inl rfl

theorem schedInv_step (o : Opts) (s : St) (op : Op) (h : SchedInv o s) : SchedInv o (step o s op).1 := by
  unfold SchedInv at *
  cases op with
  | reset => simp only [step, reset]; split <;> simp [h]
  | close => exact h
  | cancel => exact h
  -- `attempt` and `waited` rise together, except in `nextCh` at the bound, which enters the second alternative
  | next w => simp only [step]; fun_cases next o s w <;> simp only [] <;> omega
  | nextCh u => simp only [step]; fun_cases nextCh o s u <;> simp only [] <;> omega

theorem schedInv_run (o : Opts) (s : St) (ops : List Op) (h : SchedInv o s) : SchedInv o (run o s ops).1 := by
  induction ops generalizing s with
  | nil => exact h
  | cons op ops ih => exact ih _ (schedInv_step o s op h)

theorem SchedInv.next_counter {o : Opts} {s : St} (h : SchedInv o s) {w : Wait} {n : Nat} {u : Rat} :
    (next o s w).2 = .yieldAfter n u → n = s.waited := by
  unfold SchedInv at h
  fun_cases next o s w <;> intro hn <;> cases hn
  omega

theorem SchedInv.nextCh_counter {o : Opts} {s : St} (h : SchedInv o s) {n : Nat} {u u' : Rat} :
    (nextCh o s u).2 = .chTimer n u' → n = s.waited := by
  unfold SchedInv at h
  fun_cases nextCh o s u <;> intro hn <;> cases hn
  omega

theorem stopped_step (o : Opts) (s : St) (op : Op) (hs : s.stopped = true) :
    (step o s op).1.stopped = true := by
  cases op with
  | reset => rwa [step, reset_stopped hs]
  | close => simp [step, St.stopped]
  | cancel => simp [step, St.stopped]
  -- no branch clears `closed` or `cancelled`
  | next w => simp only [step, St.stopped] at hs ⊢; fun_cases next o s w <;> simp [hs]
  | nextCh u => simp only [step, St.stopped] at hs ⊢; fun_cases nextCh o s u <;> simp [hs]

theorem stopped_step_quiet (o : Opts) (s : St) (op : Op) (hs : s.stopped = true) (hn : ∀ u, op ≠ .nextCh u) :
    (step o s op).2.isYield.toNat + (step o s op).1.isReset.toNat ≤ s.isReset.toNat ∧
      (step o s op).2.isWait = false := by
  cases op with
  | nextCh u => exact absurd rfl (hn u)
  | reset => rw [step, reset_stopped hs]; exact ⟨Nat.le_of_eq (Nat.zero_add _), rfl⟩
  | close => exact ⟨Nat.le_of_eq (Nat.zero_add _), rfl⟩
  | cancel => exact ⟨Nat.le_of_eq (Nat.zero_add _), rfl⟩
  | next w =>
    rw [step]
    by_cases hr : s.isReset = true
    · rw [next_fresh w hr, hr]; exact ⟨Nat.le_refl _, rfl⟩
    · obtain ⟨h1, h2, h3⟩ := next_stopped (o := o) w hs (by simpa using hr)
      rw [h1, h2, h3]; exact ⟨Nat.le_of_eq (Nat.zero_add _), rfl⟩

def LiveOp : Op → Prop
  | .next (.elapses _) | .nextCh _ | .reset => True
  | _ => False

theorem live_step (o : Opts) (s : St) (op : Op) (hl : s.stopped = false) (hop : LiveOp op) :
    (step o s op).1.stopped = false ∧ Ev.stop ∉ evsOf o s op := by
  cases op with
  | close => exact hop.elim
  | cancel => exact hop.elim
  | reset => simpa [step, evsOf, reset_live hl, St.stopped] using hl
  | nextCh u =>
    simp only [step, evsOf]
    fun_cases nextCh o s u <;> simpa [St.stopped] using hl
  | next w =>
    cases w with
    | closerFires => exact hop.elim
    | ctxFires => exact hop.elim
    | elapses u =>
      by_cases hr : s.isReset = true
      · simpa [step, evsOf, next_fresh _ hr, St.stopped] using hl
      rw [Bool.not_eq_true] at hr
      by_cases he : Exhausted o s
      · simpa [step, evsOf, next_done _ hr he] using hl
      · simpa [step, evsOf, next_elapses u hr he hl, St.stopped] using hl

theorem live_trace_no_stop (o : Opts) (s : St) (ops : List Op) (hl : s.stopped = false)
    (hop : ∀ op ∈ ops, LiveOp op) : Ev.stop ∉ trace o s ops := by
  induction ops generalizing s with
  | nil => exact List.not_mem_nil
  | cons op ops ih =>
    rw [List.forall_mem_cons] at hop
    obtain ⟨h1, h2⟩ := live_step o s op hl hop.1
    rw [trace, List.mem_append, not_or]
    exact ⟨h2, ih _ h1 hop.2⟩

theorem monRun_append (o : Opts) (sl : Rat) (len : Bool) (m : Mon) (i : Nat) (es rest : List Ev) :
    monRun o sl len m i (es ++ rest) =
      (monRun o sl len m i es).or (monRun o sl len (es.foldl monStep m) (i + es.length) rest) := by
  induction es generalizing m i with
  | nil => rfl
  | cons e es ih =>
    simp only [List.cons_append, monRun, List.foldl_cons, List.length_cons]
    cases monBad o sl len m e with
    | some c => rfl
    | none => simp only [ih, Nat.add_assoc, Nat.add_comm 1]

theorem monRun_strict_of_live (o : Opts) (sl : Rat) (m : Mon) (i : Nat) (es : List Ev)
    (hm : m.stopped = false) (hes : Ev.stop ∉ es) :
    monRun o sl false m i es = monRun o sl true m i es := by
  induction es generalizing m i with
  | nil => rfl
  | cons e es ih =>
    rw [List.mem_cons, not_or] at hes
    have hb : monBad o sl false m e = monBad o sl true m e := by cases e <;> simp [monBad, hm]
    have hst : (monStep m e).stopped = false := by
      cases e <;> simp [monStep, hm] <;> exact absurd rfl hes.1
    simp only [monRun, hb, ih _ _ hst hes.2]

/-- simulation between the loop and the monitor of the property.  Third alternative of the last
clause: the attempts are used up (`NextCh` keeps counting after it has returned nil). -/
def Sim (o : Opts) (s : St) (m : Mon) : Prop :=
  m.stopped = s.stopped ∧ m.fresh = s.isReset ∧
  (s.isReset = true → s.attempt = 0 ∧ m.k = 0) ∧
  (s.isReset = false → m.k = s.attempt + 1 ∨ s.stopped = true ∨
    (0 < o.maxRetries ∧ o.maxRetries + 1 ≤ (m.k : Int) ∧ o.maxRetries ≤ (s.attempt : Int)))

theorem sim_start (o : Opts) (c x : Bool) : Sim o (start c x) (Mon.init (c || x)) := by
  cases h : c || x
  · simp only [Bool.or_eq_false_iff] at h
    simp [Sim, start, reset, St.stopped, Mon.init, h]
  · simp [Sim, start_stopped h, St.stopped, Mon.init, h]

theorem lowerNs_zero (o : Opts) (k : Nat) : lowerNs o 0 (k + 1) = (bandLo o k).floor := by
  have : bandLo o k * (1 - 0) = bandLo o k := by grind
  simp [lowerNs, this]

/-- `hnc`: `NextCh` never looks at the closer / context, so it is simulated only while nothing has fired. -/
theorem sim_step (o : Opts) (hv : Valid o) (hr1 : o.rand ≤ 1) (s : St) (m : Mon) (i : Nat) (op : Op)
    (hs : Sim o s m) (hnc : ∀ u, op = Op.nextCh u → s.stopped = false ∧ 0 ≤ u ∧ u < 1)
    (hu : ∀ u, op = Op.next (.elapses u) → 0 ≤ u ∧ u < 1) :
    monRun o 0 true m i (evsOf o s op) = none ∧ Sim o (step o s op).1 ((evsOf o s op).foldl monStep m) := by
  have hband : ∀ a u, 0 ≤ u → u < 1 → ¬ retryIn o a u < lowerNs o 0 (a + 1) := fun a u h0 h1 => by
    have := (retryIn_band o hv hr1 a u h0 h1).1
    rw [lowerNs_zero]; omega
  obtain ⟨k, st, fr, fi⟩ := m
  obtain ⟨h1, h2, h3, h4⟩ := hs
  simp only at h1 h2 h3 h4
  subst h1 h2
  -- an immediate attempt is pending: it is the first since the Reset
  have fresh : ∀ g s', s.isReset = true → s' = { s with isReset := false } →
      monRun o 0 true ⟨k, s.stopped, s.isReset, fi⟩ i [.yield g] = none ∧
      Sim o s' (monStep ⟨k, s.stopped, s.isReset, fi⟩ (.yield g)) := by
    rintro g s' hr rfl
    obtain ⟨ha, rfl⟩ := h3 hr
    have : ¬ (0 < o.maxRetries ∧ o.maxRetries + 1 ≤ 0) := by omega
    simp [Sim, monRun, monBad, monStep, St.stopped, hr, ha, this]
  -- a wait of the loop while retries remain: the monitor has counted one attempt more than the loop retries
  have wait : ∀ u s', 0 ≤ u → u < 1 → s.isReset = false → ¬ Exhausted o s → s.stopped = false →
      s' = { s with attempt := s.attempt + 1, waited := s.waited + 1 } →
      monRun o 0 true ⟨k, s.stopped, s.isReset, fi⟩ i [.yield (retryIn o s.attempt u)] = none ∧
      Sim o s' (monStep ⟨k, s.stopped, s.isReset, fi⟩ (.yield (retryIn o s.attempt u))) := by
    rintro u s' hu0 hu1 hr he hst rfl
    obtain rfl : k = s.attempt + 1 := by
      rcases h4 hr with h | h | h
      · exact h
      · rw [hst] at h; cases h
      · exact absurd ⟨h.1, h.2.2⟩ he
    have hb := hband s.attempt u hu0 hu1
    have hst' := hst
    simp only [St.stopped, Bool.or_eq_false_iff] at hst'
    simp [Sim, monRun, monBad, monStep, St.stopped, hr, hst', hb, he]
  -- no attempt: the loop is stopped or the attempts are used up
  have quiet : s.isReset = false → (s.stopped = false → Exhausted o s) →
      monRun o 0 true ⟨k, s.stopped, s.isReset, fi⟩ i [.noYield] = none := by
    intro hr h
    cases hst : s.stopped with
    | true => simp [monRun, monBad]
    | false =>
      have he := h hst
      have : 0 < o.maxRetries ∧ o.maxRetries + 1 ≤ (k : Int) := by
        rcases h4 hr with h | h | h
        · omega
        · rw [hst] at h; cases h
        · exact ⟨h.1, h.2.1⟩
      simp [monRun, monBad, hr, this]
  cases op with
  | close =>
    exact ⟨rfl, by simp [step, evsOf, monStep, St.stopped], rfl, h3, fun _ => .inr (.inl (by simp [step, St.stopped]))⟩
  | cancel =>
    exact ⟨rfl, by simp [step, evsOf, monStep, St.stopped], rfl, h3, fun _ => .inr (.inl (by simp [step, St.stopped]))⟩
  | reset =>
    by_cases hst : s.stopped = true
    · simpa [step, evsOf, reset_stopped hst, monRun, monBad, monStep, hst] using ⟨hst.symm, rfl, h3, h4⟩
    · rw [Bool.not_eq_true] at hst
      simp [step, evsOf, reset_live hst, monRun, monBad, monStep, Sim, hst]
      exact hst
  | nextCh u =>
    obtain ⟨hl, hu0, hu1⟩ := hnc u rfl
    simp only [step, evsOf]
    by_cases hr : s.isReset = true
    · simp only [nextCh_fresh u hr]; exact fresh _ _ hr rfl
    rw [Bool.not_eq_true] at hr
    by_cases he : Exhausted o s
    · simp only [nextCh_nil u hr he]
      refine ⟨quiet hr fun _ => he, rfl, rfl, fun h => absurd h (by simp [hr]), fun _ => .inr (.inr ?_)⟩
      rcases h4 hr with h | h | h
      · exact ⟨he.1, by simp only [List.foldl, monStep]; omega, by simp only []; omega⟩
      · rw [hl] at h; cases h
      · exact ⟨h.1, h.2.1, by simp only []; omega⟩
    · simp only [nextCh_timer u hr he]; exact wait u _ hu0 hu1 hr he hl rfl
  | next w =>
    simp only [step, evsOf]
    by_cases hr : s.isReset = true
    · simp only [next_fresh w hr]; exact fresh 0 _ hr rfl
    rw [Bool.not_eq_true] at hr
    by_cases he : Exhausted o s
    · simp only [next_done w hr he]; exact ⟨quiet hr fun _ => he, rfl, rfl, h3, h4⟩
    by_cases hst : s.stopped = true
    · simp only [next_halted w hr he hst, if_pos hst]
      exact ⟨quiet hr fun h => absurd hst (by simp [h]), rfl, rfl, h3, h4⟩
    have hl : s.stopped = false := by simpa using hst
    -- a stop during the wait: `stop` then `noYield`, and the loop is stopped
    have fires : ∀ s', s'.isReset = false → s'.stopped = true →
        monRun o 0 true ⟨k, s.stopped, s.isReset, fi⟩ i [.stop, .noYield] = none ∧
        Sim o s' ([Ev.stop, .noYield].foldl monStep ⟨k, s.stopped, s.isReset, fi⟩) := fun s' h1 h2 =>
      ⟨by simp [monRun, monBad, monStep], by simp [Sim, monStep, h1, h2, hr]⟩
    cases w with
    | elapses u => simp only [next_elapses u hr he hl]; exact wait u _ (hu u rfl).1 (hu u rfl).2 hr he hl rfl
    | closerFires => simp only [next_closerFires hr he hl, if_neg hst]; exact fires _ hr (by simp [St.stopped])
    | ctxFires => simp only [next_ctxFires hr he hl, if_neg hst]; exact fires _ hr (by simp [St.stopped])

/-- `I`: whatever invariant of the run puts every `NextCh` of `ops` before a stop (`hnc`). -/
theorem sim_trace (o : Opts) (hv : Valid o) (hr1 : o.rand ≤ 1) (I : St → Prop) (ops : List Op)
    (hI : ∀ s, I s → ∀ op ∈ ops, I (step o s op).1)
    (hnc : ∀ s, I s → ∀ op ∈ ops, ∀ u, op = Op.nextCh u → s.stopped = false ∧ 0 ≤ u ∧ u < 1)
    (hu : ∀ op ∈ ops, ∀ u, op = Op.next (.elapses u) → 0 ≤ u ∧ u < 1)
    (s : St) (m : Mon) (i : Nat) (hs : Sim o s m) (hi : I s) : monRun o 0 true m i (trace o s ops) = none := by
  induction ops generalizing s m i with
  | nil => rfl
  | cons op ops ih =>
    obtain ⟨h1, h2⟩ := sim_step o hv hr1 s m i op hs (hnc s hi op (by simp)) (hu op (by simp))
    rw [trace, monRun_append, h1]
    exact ih (fun s hs op hop => hI s hs op (by simp [hop])) (fun s hs op hop => hnc s hs op (by simp [hop]))
      (fun op hop => hu op (by simp [hop])) _ _ _ h2 (hI s hi op (by simp))

/-- the repaired loop: whatever `Next` does, the guard `calls < n` bounds the calls. -/
theorem wmaLoop_spec (o : Opts) (n : Int) (env : List (Wait × Bool)) (s : St) (calls : Nat)
    (hc : (calls : Int) ≤ n) :
    ((wmaLoop o n s calls env).calls : Int) ≤ n ∧ calls ≤ (wmaLoop o n s calls env).calls ∧
    ((wmaLoop o n s calls env).result = some true ↔ (wmaLoop o n s calls env).succeeded = true) ∧
    (n - calls < env.length → (wmaLoop o n s calls env).result ≠ none) := by
  induction env generalizing s calls with
  | nil =>
    simp only [wmaLoop, List.length_nil]
    exact ⟨hc, Nat.le_refl _, by simp, by omega⟩
  | cons e env ih =>
    obtain ⟨w, ok⟩ := e
    simp only [wmaLoop, List.length_cons]
    by_cases hg : (calls : Int) < n ∧ (next o s w).2.isYield = true
    · simp only [hg, and_self, if_true]
      cases ok with
      | true => simp; omega
      | false =>
        simp only [Bool.false_eq_true, if_false]
        have := ih (next o s w).1 (calls + 1) (by omega)
        refine ⟨this.1, by omega, this.2.2.1, fun h => this.2.2.2 (by omega)⟩
    · simp only [hg, if_false]
      exact ⟨hc, Nat.le_refl _, by simp, by simp⟩

theorem wmaLoop_calls_pos (o : Opts) (n : Int) (hn : 1 ≤ n) {s : St} (hr : s.isReset = true)
    (e : Wait × Bool) (env : List (Wait × Bool)) : 1 ≤ (wmaLoop o n s 0 (e :: env)).calls := by
  obtain ⟨w, ok⟩ := e
  rw [wmaLoop, next_fresh w hr, if_pos ⟨by omega, rfl⟩]
  cases ok with
  | true => exact Nat.le_refl 1
  | false => exact (wmaLoop_spec o n env _ 1 (by omega)).2.1

end Shk.Retry
