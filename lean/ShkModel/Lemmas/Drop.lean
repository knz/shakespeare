/-! A list described from a position `p` on by what stands there (`l.drop p = …`): the form in which the template
matcher speaks of a line of characters and the reader of a file of physical lines. -/
namespace Shk
variable {α : Type}

theorem getElem?_of_drop {l : List α} {p : Nat} {x : α} {t : List α} (h : l.drop p = x :: t) : l[p]? = some x := by
  rw [← List.head?_drop, h]; rfl

theorem getElem?_of_drop_nil {l : List α} {p : Nat} (h : l.drop p = []) : l[p]? = none := by
  rw [← List.head?_drop, h]; rfl

theorem drop_add_of_drop {l : List α} {p : Nat} {w t : List α} (h : l.drop p = w ++ t) :
    l.drop (p + w.length) = t := by
  rw [← List.drop_drop, h, List.drop_left]

theorem drop_succ_of_drop {l : List α} {p : Nat} {x : α} {t : List α} (h : l.drop p = x :: t) :
    l.drop (p + 1) = t :=
  drop_add_of_drop (w := [x]) h

theorem length_of_drop {l : List α} {p : Nat} {t : List α} (h : l.drop p = t) (hp : p ≤ l.length) :
    l.length = p + t.length := by
  rw [← h, List.length_drop, Nat.add_sub_cancel' hp]

theorem add_length_le_of_drop {l : List α} {p : Nat} {w t : List α} (h : l.drop p = w ++ t)
    (hp : p ≤ l.length) : p + w.length ≤ l.length := by
  rw [length_of_drop h hp, List.length_append, ← Nat.add_assoc]; exact Nat.le_add_right _ _

theorem getElem?_of_drop_append {l : List α} {p k : Nat} {w t : List α} (h : l.drop p = w ++ t)
    (hk : k < w.length) : l[p + k]? = some w[k] := by
  rw [← List.getElem?_drop, h, List.getElem?_append_left hk, List.getElem?_eq_getElem hk]

end Shk
