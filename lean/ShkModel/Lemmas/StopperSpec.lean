import ShkModel.Lemmas.StopperCalls
/-! From the invariants to the rules of `logOk`: every entry a step appends is allowed by `evOk`. -/
namespace Shk.Stopper

structure Inv (cap : Nat) (s : St) : Prop where
  capEq : s.cap = cap
  cnt : Cnt s
  ph : Ph s
  flags : FlagsInv s
  thr : ThreadsInv s
  lists : ListsInv s
  ids : IdsInv s
  bal : BalInv s
  stable : StableInv s
  cancel : CancelInv s
  kinv : KInv s
  evk : EvKindInv s
  workers : WorkersInv s

theorem inv_reach {cap : Nat} {s : St} (h : Reach cap s) : Inv cap s :=
  ⟨cap_reach h, cnt_reach h, ph_reach h, flags_reach h, threads_reach h, lists_reach h, ids_reach h, bal_reach h,
    stable_reach h, cancel_reach h, kinv_reach h, evkind_reach h, workers_reach h⟩

theorem Inv.drained {cap s} (I : Inv cap s) (h0 : s.numTasks = 0) : drained s.log = true := by
  simp only [Shk.Stopper.drained, Bool.and_eq_true, allHave_iff]
  refine ⟨?_, ?_⟩
  · intro p hp hk
    simp at hk
    obtain ⟨t, ht, hc, ti⟩ := thread_of I.evk I.thr hp (by rw [hk]; decide)
    have hs : started t = true := by rw [← ti.bs, ← hk]; exact has_of_mem hp
    rw [ti.be]
    exact bodyDone_of_started hs (I.cnt.not_inTask h0 ht)
  · intro p hp hk
    simp at hk
    obtain ⟨⟨hk, hv⟩, htc⟩ := hk
    obtain ⟨t, ht, hc, ti, hable⟩ := returned I.evk I.thr hp hk
    have hv' := ti.retv p.v (by rw [← hk]; exact hasV_of_mem hp)
    rw [ti.be]
    exact bodyDone_of_returned (by rw [← isTaskCode_code, hc]; exact htc) hable (hv' ▸ hv) (I.cnt.not_inTask h0 ht)

theorem Inv.workersDone {cap s} (I : Inv cap s) (h5 : 5 ≤ s.sp.rank) : workersDone s.log = true := by
  simp only [Shk.Stopper.workersDone, allHave_iff]
  intro p hp hk
  simp at hk
  exact I.workers h5 p hp hk.1.1 hk.1.2 hk.2

theorem Inv.closersDone {cap s} (I : Inv cap s) (hall : calledPrefix s = s.closers) : closersDone s.log = true := by
  simp only [Shk.Stopper.closersDone, allHave_iff]
  intro p hp hk
  simp at hk
  obtain ⟨t, ht, hc, _, hable⟩ := returned I.evk I.thr hp hk.1
  have hkind : t.kind = .closer := code_inj (by rw [hc, hk.2]; rfl)
  -- AddCloser returns only when it is done
  have hdone : t.pc = .done := by
    obtain ⟨kind, pc, ret⟩ := t
    cases hkind
    cases pc <;> first | rfl | exact Bool.noConfusion hable
  by_cases hm : p.id ∈ s.closers
  · rw [I.kinv.reg _ hm, hall]; simp [hm]
  · rw [I.kinv.imm _ t ht hkind hm, hdone]; rfl

/-- one slot per limited body in progress -/
theorem Inv.sem_lower {cap s} (I : Inv cap s) : Shk.Stopper.cnt s.log .bodyStart ≤ Shk.Stopper.cnt s.log .bodyEnd + s.sem := by
  have h1 := I.bal.body
  have h2 : s.threads.countP limRunning ≤ s.threads.countP holdsSem :=
    List.countP_mono_left fun t _ => holdsSem_of_limRunning
  rw [I.cnt.sem]; omega

theorem Inv.sem_lower_snoc {cap s} (I : Inv cap s) (e : Ev) (h : (e.k == .bodyStart && isLimCode e.c) = false) :
    Shk.Stopper.cnt (s.log ++ [e]) .bodyStart ≤ Shk.Stopper.cnt s.log .bodyEnd + s.sem := by
  rw [cnt_append, cnt_cons, h]; exact I.sem_lower

/-- `sem_lower` with one to spare: the body that is about to begin already holds its slot; were it running, it would still count once on
either side -/
theorem Inv.sem_lower_start {cap s} (I : Inv cap s) {i : Nat} {w r : Bool} (ht : s.threads[i]? = some ⟨.ltask w, .accepted, r⟩) :
    Shk.Stopper.cnt s.log .bodyStart + 1 ≤ Shk.Stopper.cnt s.log .bodyEnd + s.sem := by
  have h1 := I.bal.body
  have h2 : (s.threads.set i ⟨.ltask w, .running, r⟩).countP limRunning ≤ (s.threads.set i ⟨.ltask w, .running, r⟩).countP holdsSem :=
    List.countP_mono_left fun t _ => holdsSem_of_limRunning
  have h3 := toNat_le_countP (p := holdsSem) ht
  rw [countP_set _ _ ht, countP_set _ _ ht] at h2
  rw [I.cnt.sem]
  change _ + 1 - 0 ≤ _ + 1 - 1 at h2
  change 1 ≤ _ at h3
  omega

/-- after the drain only calls that have not returned can hold a slot -/
theorem Inv.sem_upper {cap s} (I : Inv cap s) (h0 : s.numTasks = 0) : Shk.Stopper.cnt s.log .ret + s.sem ≤ Shk.Stopper.cnt s.log .call := by
  have h1 := I.bal.call
  have h2 : s.threads.countP holdsSem ≤ s.threads.countP limOpen := by
    apply List.countP_mono_left
    intro t hmem h
    obtain ⟨j, hj⟩ := List.getElem?_of_mem hmem
    exact limOpen_of_holdsSem h (I.cnt.not_inTask h0 hj) (I.thr j t hj).retable
  rw [I.cnt.sem]; omega

theorem Inv.kindOf_eq {cap s} (I : Inv cap s) {i : Nat} {t : Thread} (ht : s.threads[i]? = some t) :
    kindOf s.log i = some t.kind.code := by
  obtain ⟨e, h1, h2, _⟩ := (I.thr i t ht).call
  simp [kindOf, h1, h2]

theorem Inv.callQ_false {cap s} (I : Inv cap s) {i : Nat} {t : Thread} (ht : s.threads[i]? = some t)
    (ha : wasAccepted t = true) : callQ s.log i = false := by
  obtain ⟨e, h1, _, h3⟩ := (I.thr i t ht).call
  simp [callQ, h1, h3 ha]

theorem Inv.flagsOk_intro {cap s} (I : Inv cap s) (e : Ev)
    (hq : s.quiescing = true → e.q = true) (hs : s.sClosed = true → e.s = true) (hd : s.dClosed = true → e.d = true)
    (n1 : e.d = true → e.s = true) (n2 : e.s = true → e.q = true) : flagsOk s.log e = true := by
  simp only [flagsOk, Bool.and_eq_true, bimp, List.all_eq_true]
  refine ⟨⟨n1, n2⟩, fun p hp => ?_⟩
  obtain ⟨f1, f2, f3, _⟩ := I.flags p hp
  exact ⟨⟨fun h => hq (f1 h), fun h => hs (f2 h)⟩, fun h => hd (f3 h)⟩

theorem Inv.globalOk_intro {cap s} (I : Inv cap s) (e : Ev)
    (hq : s.quiescing = true → e.q = true) (hs : s.sClosed = true → e.s = true) (hd : s.dClosed = true → e.d = true)
    (n1 : e.d = true → e.s = true) (n2 : e.s = true → e.q = true)
    (h0 : e.s = true → s.numTasks = 0)
    (h5 : e.d = true → 5 ≤ s.sp.rank ∧ calledPrefix s = s.closers)
    (hn : e.n = s.sem)
    (hb : Shk.Stopper.cnt (s.log ++ [e]) .bodyStart ≤ Shk.Stopper.cnt s.log .bodyEnd + s.sem) :
    globalOk cap s.log e = true := by
  have hcap : s.sem ≤ cap := I.capEq ▸ I.ph.semcap
  exact globalOk_iff.mpr ⟨I.flagsOk_intro e hq hs hd n1 n2, fun h => I.drained (h0 h),
    fun h => ⟨I.workersDone (h5 h).1, I.closersDone (h5 h).2⟩, hn ▸ hcap, hn ▸ hb, fun h => hn ▸ I.sem_upper (h0 h)⟩

theorem Inv.dfin {cap s} (I : Inv cap s) (hd : s.dClosed = true) : 5 ≤ s.sp.rank ∧ calledPrefix s = s.closers := by
  have h6 : s.sp.rank = 6 := by
    have := I.ph.dclosed
    rw [hd] at this; simpa using this
  have : s.sp = .fin := by cases hs : s.sp <;> simp [hs] at h6 ⊢
  exact ⟨h6 ▸ by decide, by rw [calledPrefix, this]⟩

/-- an entry sampled in the current state (a limited body start needs its slot, see `ok_bodyStart`) -/
theorem Inv.globalOk_sampled {cap s} (I : Inv cap s) (k : EK) (i c v : Nat)
    (hb : Shk.Stopper.cnt (s.log ++ [s.ev k i c v]) .bodyStart ≤ Shk.Stopper.cnt s.log .bodyEnd + s.sem) :
    globalOk cap s.log (s.ev k i c v) = true :=
  I.globalOk_intro _ id id id I.ph.d_s I.ph.s_q I.ph.s_tasks I.dfin rfl hb

theorem Inv.globalOk_ev {cap s} (I : Inv cap s) (k : EK) (i c v : Nat) (hk : (k == .bodyStart && isLimCode c) = false) :
    globalOk cap s.log (s.ev k i c v) = true :=
  I.globalOk_sampled k i c v (I.sem_lower_snoc _ hk)

theorem Inv.sClosed_false_of_inTask {cap s} (I : Inv cap s) {i : Nat} {t : Thread} (ht : s.threads[i]? = some t)
    (h : inTask t = true) : s.sClosed = false := by
  cases hs : s.sClosed
  · rfl
  · exact Bool.noConfusion (h.symm.trans (I.cnt.not_inTask (I.ph.s_tasks hs) ht))

theorem Inv.ok_bodyStart {cap s} (I : Inv cap s) {i : Nat} {k : Kind} {r : Bool} (ht : s.threads[i]? = some ⟨k, .accepted, r⟩)
    (hk : k.isTask = true) : evOk cap s.log (s.ev .bodyStart i k.code 0) = true := by
  have ti := I.thr i _ ht
  have hns : s.sClosed = false := I.sClosed_false_of_inTask ht rfl
  refine evOk_iff.mpr ⟨I.globalOk_sampled _ _ _ _ ?_, ?_⟩
  · simp only [cnt_append, cnt_cons, cnt_nil, St.ev, isLimCode_code]
    -- the start of a limited body (the two `ltask` kinds) is itself counted: `sem_lower_start`; else `sem_lower`
    cases k <;> first | exact I.sem_lower | exact I.sem_lower_start ht
  have h1 : has s.log .bodyStart i = false := ti.bs.trans (Bool.and_false _)
  have h2 : hasV s.log .ret i 1 = false := ti.ret_ne (show 1 ≠ retCode .accepted by decide)
  have h3 : hasV s.log .ret i 2 = false := ti.ret_ne (show 2 ≠ retCode .accepted by decide)
  have h4 : callQ s.log i = false := I.callQ_false ht (by simp [wasAccepted, hk])
  simp [kindOk, St.ev, I.kindOf_eq ht, isTaskCode_code, hk, h1, h2, h3, h4, hns]

theorem Inv.ok_bodyEnd {cap s} (I : Inv cap s) {i : Nat} {k : Kind} {r : Bool} (ht : s.threads[i]? = some ⟨k, .running, r⟩)
    (hk : k.isTask = true) : evOk cap s.log (s.ev .bodyEnd i k.code 0) = true := by
  have ti := I.thr i _ ht
  have hns : s.sClosed = false := I.sClosed_false_of_inTask ht rfl
  have h1 : has s.log .bodyStart i = true := by rw [ti.bs]; simp [started, hk]
  have h2 : has s.log .bodyEnd i = false := ti.be.trans (Bool.and_false _)
  refine evOk_iff.mpr ⟨I.globalOk_ev _ _ _ _ rfl, ?_⟩
  simp [kindOk, St.ev, I.kindOf_eq ht, h1, h2, hns]

theorem Inv.ok_wStart {cap s} (I : Inv cap s) {i : Nat} {r : Bool} (ht : s.threads[i]? = some ⟨.worker, .wAdded, r⟩) :
    evOk cap s.log (s.ev .wStart i Kind.worker.code 0) = true := by
  have h1 : has s.log .wStart i = false := (I.thr i _ ht).ws
  refine evOk_iff.mpr ⟨I.globalOk_ev _ _ _ _ rfl, ?_⟩
  simp [kindOk, St.ev, I.kindOf_eq ht, h1, Kind.code]

theorem Inv.ok_wEnd {cap s} (I : Inv cap s) {i : Nat} {r : Bool} (ht : s.threads[i]? = some ⟨.worker, .wRunning, r⟩) :
    evOk cap s.log (s.ev .wEnd i Kind.worker.code 0) = true := by
  have ti := I.thr i _ ht
  have h1 : has s.log .wStart i = true := ti.ws
  have h2 : has s.log .wEnd i = false := ti.we
  refine evOk_iff.mpr ⟨I.globalOk_ev _ _ _ _ rfl, ?_⟩
  simp [kindOk, St.ev, I.kindOf_eq ht, h1, h2]

theorem Inv.ok_closerImm {cap s} (I : Inv cap s) {i : Nat} {r : Bool} (ht : s.threads[i]? = some ⟨.closer, .cImm, r⟩) :
    evOk cap s.log (s.ev .closer i Kind.closer.code 0) = true := by
  have ti := I.thr i _ ht
  have hs : s.sClosed = true := (I.stable i _ ht).ci rfl
  have h1 : has s.log .closer i = false := I.kinv.imm i _ ht rfl (I.lists.fresh i _ ht rfl (Or.inr rfl))
  have h2 : has s.log .ret i = false := by
    rw [ti.ret]
    cases r
    · rfl
    · exact Bool.noConfusion (ti.retable rfl)
  refine evOk_iff.mpr ⟨I.globalOk_ev _ _ _ _ rfl, ?_⟩
  simp [kindOk, St.ev, I.kindOf_eq ht, h1, h2, Kind.code, hs]

theorem Inv.ok_closerLoop {cap s} (I : Inv cap s) {k c : Nat} (hsp : s.sp = .closers k) (hc : s.closers[k]? = some c) :
    evOk cap s.log (s.ev .closer c 5 0) = true := by
  have hm : c ∈ s.closers := List.mem_of_getElem? hc
  obtain ⟨t, ht, hk, hpc⟩ := I.lists.closers_thr c hm
  have hs : s.sClosed = true := by rw [I.ph.sclosed, hsp]; rfl
  have hd : s.dClosed = false := by rw [I.ph.dclosed, hsp]; rfl
  have h1 : has s.log .closer c = false := by
    rw [I.kinv.reg c hm]
    simp only [calledPrefix, hsp, decide_eq_false_iff_not]
    exact nodup_take_not_mem I.lists.nodup hc
  have hw := I.workersDone (by rw [hsp]; exact Nat.le_refl 5)
  have hkind : kindOf s.log c = some 5 := by rw [I.kindOf_eq ht, hk]; rfl
  refine evOk_iff.mpr ⟨I.globalOk_ev _ _ _ _ rfl, ?_⟩
  simp [kindOk, St.ev, hkind, h1, hs, hd, hw]

theorem Inv.cancelled_of_ret {cap s} (I : Inv cap s) {kd : Kind} (hkd : kd = .wcq ∨ kd = .wcs)
    (hclosed : (kd = .wcq → s.quiescing = true) ∧ (kd = .wcs → s.sClosed = true)) :
    allHave s.log (fun p => p.k == .ret && p.c == kd.code) .cancelled = true := by
  rw [allHave_iff]
  intro p hp hsel
  simp at hsel
  obtain ⟨tp, htp, hc, _, hable⟩ := returned I.evk I.thr hp hsel.1
  have hkind : tp.kind = kd := code_inj (by rw [hc, hsel.2])
  have hni : tp.pc ≠ .init := by
    intro h0; rw [h0, hkind] at hable
    rcases hkd with h | h <;> rw [h] at hable <;> cases hable
  have ci := (I.cancel p.id tp htp).fires hni
  rcases hkd with h | h
  · exact ci.1 (hkind.trans h) (hclosed.1 h)
  · exact ci.2 (hkind.trans h) (hclosed.2 h)

theorem Inv.ok_fin {cap s} (I : Inv cap s) {i : Nat} {r : Bool} (ht : s.threads[i]? = some ⟨.probe, .init, r⟩) :
    evOk cap s.log (s.ev .fin i Kind.probe.code 0) = true := by
  have h6 : s.quiescing = true → allHave s.log (fun p => p.k == .ret && p.c == 6) .cancelled = true :=
    fun hq => I.cancelled_of_ret (.inl rfl) ⟨fun _ => hq, nofun⟩
  have h7 : s.sClosed = true → allHave s.log (fun p => p.k == .ret && p.c == 7) .cancelled = true :=
    fun hq => I.cancelled_of_ret (.inr rfl) ⟨nofun, fun _ => hq⟩
  refine evOk_iff.mpr ⟨I.globalOk_ev _ _ _ _ rfl, ?_⟩
  simp only [kindOk, St.ev, I.kindOf_eq ht, Kind.code, Bool.and_eq_true, bimp]
  exact ⟨rfl, ⟨rfl, h6⟩, h7⟩

theorem Inv.ok_ret {cap s} (I : Inv cap s) {i : Nat} {k : Kind} {pc : Pc} {v : Nat} (ht : s.threads[i]? = some ⟨k, pc, false⟩)
    (hv : retVal k pc = some v) : evOk cap s.log (s.ev .ret i k.code v) = true := by
  have ti := I.thr i _ ht
  obtain ⟨q1, q2, q3, q4, q5, q6⟩ := I.stable i _ ht
  have h1 : has s.log .ret i = false := ti.ret
  refine evOk_iff.mpr ⟨I.globalOk_ev _ _ _ _ rfl, ?_⟩
  simp only [kindOk, St.ev, I.kindOf_eq ht, h1, isTaskCode_code]
  cases hk : k.isTask
  · obtain ⟨rfl, hp, hq, hs⟩ := retVal_other hk hv
    by_cases h8 : k = .quiesce
    · cases h8
      cases hq rfl
      simp [Kind.code, q1 rfl (.inr rfl), I.drained (q2 rfl rfl)]
    · by_cases h9 : k = .stop
      · cases h9
        rcases hs rfl with rfl | rfl
        · simp [Kind.code, q3 rfl rfl]
        · have := q4 rfl rfl
          simp only [otherStop] at this
          simp [Kind.code, this]
      · have e8 : k.code ≠ 8 := code_ne h8
        have e9 : k.code ≠ 9 := code_ne h9
        have e10 : k.code ≠ 10 := code_ne hp
        simp [e8, e9, e10]
  · rcases retVal_task false hk hv with ⟨rfl, rfl⟩ | ⟨rfl, rfl, rfl⟩ | ⟨rfl, ha, hd⟩
    · simp [q5 (.inl rfl), ti.bs, started]
    · simp [ti.bs, started, Kind.code]
    · have hc : (k.code != 0 || has s.log .bodyEnd i) = true := by
        by_cases h0 : k = .task
        · cases h0; cases hd rfl
          rw [ti.be]; rfl
        · have : k.code ≠ 0 := code_ne h0
          simp [this]
      simp [I.callQ_false ht ha, hc]

theorem Inv.ok_call {cap s} (I : Inv cap s) (k : Kind) :
    evOk cap s.log (s.ev .call s.threads.length k.code 0) = true := by
  refine evOk_iff.mpr ⟨I.globalOk_ev _ _ _ _ rfl, ?_⟩
  simp [kindOk, St.ev, has_fresh I.ids, ofCode_code]

theorem evOk_mark {cap : Nat} {pre : List Ev} {e : Ev} (hk : e.k = .mark) (hg : globalOk cap pre e = true) :
    evOk cap pre e = true :=
  evOk_iff.mpr ⟨hg, by simp [kindOk, hk]⟩

theorem Inv.ok_mark0 {cap s} (I : Inv cap s) (who : Nat) :
    globalOk cap s.log ⟨.mark, who, 0, 0, true, s.sClosed, s.dClosed, s.sem⟩ = true :=
  I.globalOk_intro _ (fun _ => rfl) id id I.ph.d_s (fun _ => rfl) I.ph.s_tasks I.dfin rfl (I.sem_lower_snoc _ rfl)

theorem Inv.ok_mark2 {cap s} (I : Inv cap s) (who : Nat) (hsp : s.sp = .drained) :
    globalOk cap s.log ⟨.mark, who, 0, 2, s.quiescing, true, s.dClosed, s.sem⟩ = true := by
  have hq : s.quiescing = true := I.ph.quiescing (by rw [hsp]; decide)
  have h0 : s.numTasks = 0 := I.ph.drained (by rw [hsp]; decide)
  have hd : s.dClosed = false := by rw [I.ph.dclosed, hsp]; rfl
  exact I.globalOk_intro _ id (fun _ => rfl) id (fun _ => rfl) (fun _ => hq) (fun _ => h0)
    (fun h => Bool.noConfusion (hd.symm.trans h)) rfl (I.sem_lower_snoc _ rfl)

theorem Inv.ok_mark4 {cap s} (I : Inv cap s) (who k : Nat) (hsp : s.sp = .closers k) (hk : s.closers[k]? = none) :
    globalOk cap s.log ⟨.mark, who, 0, 4, s.quiescing, s.sClosed, true, s.sem⟩ = true := by
  have hs : s.sClosed = true := by rw [I.ph.sclosed, hsp]; rfl
  refine I.globalOk_intro _ id id (fun _ => rfl) (fun _ => hs) I.ph.s_q I.ph.s_tasks (fun _ => ⟨?_, ?_⟩) rfl (I.sem_lower_snoc _ rfl)
  · rw [hsp]; exact Nat.le_refl 5
  · rw [calledPrefix, hsp]; exact List.take_of_length_le (List.getElem?_eq_none_iff.mp hk)

/-! Cancel functions fire before the marker of the channel being closed, in the same critical section; no rule looks
at `cancelled` entries except through the channel states they carry. -/

def CancelOnly (X : List Ev) : Prop := ∀ x ∈ X, x.k = .cancelled

theorem hasK_cancelOnly {X : List Ev} (hX : CancelOnly X) {k : EK} (hk : k ≠ .cancelled) : hasK X k = false := by
  simp only [hasK, List.any_eq_false, beq_iff_eq]
  exact fun x hx h => hk (h ▸ hX x hx)

theorem allHave_cancelOnly {pre X : List Ev} (hX : CancelOnly X) {sel : Ev → Bool} {k : EK}
    (hsel : ∀ p, p.k = .cancelled → sel p = false) (hk : k ≠ .cancelled) :
    allHave (pre ++ X) sel k = allHave pre sel k := by
  simp only [allHave, List.all_append, has_append, has_of_hasK (hasK_cancelOnly hX hk), Bool.or_false]
  have : (X.all fun p => !sel p || has pre k p.id) = true := by
    rw [List.all_eq_true]
    intro x hx
    simp [hsel x (hX x hx)]
  rw [this, Bool.and_true]

theorem callOf_cancelOnly {pre X : List Ev} (hX : CancelOnly X) (i : Nat) : callOf (pre ++ X) i = callOf pre i := by
  rw [callOf_append, callOf_none_of_not_has (has_of_hasK (hasK_cancelOnly hX (by decide)) i), Option.or_none]

theorem globalOk_cancelOnly {cap : Nat} {pre X : List Ev} {e : Ev} (hX : CancelOnly X)
    (hfl : ∀ x ∈ X, (x.q = true → e.q = true) ∧ (x.s = true → e.s = true) ∧ (x.d = true → e.d = true))
    (h : globalOk cap pre e = true) : globalOk cap (pre ++ X) e = true := by
  have a : ∀ {sel : Ev → Bool} {k : EK}, (∀ p, p.k = .cancelled → sel p = false) → k ≠ .cancelled →
      allHave (pre ++ X) sel k = allHave pre sel k := allHave_cancelOnly hX
  have z : ∀ {k : EK}, k ≠ .cancelled → cnt X k = 0 := fun hk => cnt_of_hasK (hasK_cancelOnly hX hk)
  have e1 : drained (pre ++ X) = drained pre := by
    simp only [drained]
    rw [a (by intro p hp; simp [hp]) (by decide), a (by intro p hp; simp [hp]) (by decide)]
  have e2 : workersDone (pre ++ X) = workersDone pre := a (by intro p hp; simp [hp]) (by decide)
  have e3 : closersDone (pre ++ X) = closersDone pre := a (by intro p hp; simp [hp]) (by decide)
  have e4 : flagsOk (pre ++ X) e = flagsOk pre e := by
    simp only [flagsOk, List.all_append]
    have : (X.all fun p => (!p.q || e.q) && (!p.s || e.s) && (!p.d || e.d)) = true := by
      simp only [List.all_eq_true, Bool.and_eq_true, bimp]
      exact fun x hx => ⟨⟨(hfl x hx).1, (hfl x hx).2.1⟩, (hfl x hx).2.2⟩
    rw [this, Bool.and_true]
  simp only [globalOk, e1, e2, e3, e4, cnt_append, z (k := .bodyStart) (by decide), z (k := .bodyEnd) (by decide),
    z (k := .ret) (by decide), z (k := .call) (by decide), Nat.add_zero] at h ⊢
  exact h

theorem Inv.ok_cancelFor {cap s} (I : Inv cap s) {x c : Nat} (hc : c = 6 ∨ c = 7) (hk : kindOf s.log x = some c) :
    evOk cap s.log (s.ev .cancelled x c 0) = true := by
  refine evOk_iff.mpr ⟨I.globalOk_ev _ _ _ _ rfl, ?_⟩
  simp only [kindOk, St.ev, hk]
  rcases hc with rfl | rfl <;> rfl

theorem evOk_cancelOnly {cap : Nat} {pre X : List Ev} {e : Ev} (hX : CancelOnly X)
    (hfl : ∀ x ∈ X, (x.q = true → e.q = true) ∧ (x.s = true → e.s = true) ∧ (x.d = true → e.d = true))
    (hk : e.k = .cancelled ∨ e.k = .mark) (h : evOk cap pre e = true) : evOk cap (pre ++ X) e = true := by
  simp only [evOk, Bool.and_eq_true] at h ⊢
  refine ⟨globalOk_cancelOnly hX hfl h.1, ?_⟩
  have := h.2
  rcases hk with hk | hk <;> simp only [kindOk, kindOf, callOf_cancelOnly hX, hk] at this ⊢ <;> exact this

theorem Inv.ok_cancelEvs {cap s} (I : Inv cap s) (c : Nat) (hc : c = 6 ∨ c = 7) (ids : List Nat)
    (hk : ∀ x ∈ ids, kindOf s.log x = some c) (X : List Ev) (hX : ∀ x ∈ X, x.k = .cancelled ∧ Sampled s x) :
    logOkFrom cap (s.log ++ X) (s.cancelEvs ids c) = true := by
  induction ids generalizing X with
  | nil => rfl
  | cons x xs ih =>
    simp only [St.cancelEvs, List.map_cons, logOkFrom, Bool.and_eq_true]
    refine ⟨evOk_cancelOnly (fun y hy => (hX y hy).1) (fun y hy => ?_) (.inl rfl) (I.ok_cancelFor hc (hk x List.mem_cons_self)), ?_⟩
    · obtain ⟨_, a, b, d, _⟩ := hX y hy
      rw [a, b, d]; exact ⟨id, id, id⟩
    · rw [List.append_assoc]
      exact ih (fun y hy => hk y (List.mem_cons_of_mem _ hy)) _ (List.forall_mem_append.mpr ⟨hX, List.forall_mem_singleton.mpr ⟨rfl, rfl, rfl, rfl, rfl⟩⟩)

theorem Inv.ok_cancelAll {cap s} (I : Inv cap s) (c : Nat) (hc : c = 6 ∨ c = 7) (ids : List Nat)
    (hk : ∀ x ∈ ids, ∃ t, s.threads[x]? = some t ∧ t.kind.code = c) : logOkFrom cap s.log (s.cancelEvs ids c) = true := by
  have := I.ok_cancelEvs c hc ids (fun x hx => ?_) [] (List.forall_mem_nil _)
  · rwa [List.append_nil] at this
  · obtain ⟨t, ht, hkc⟩ := hk x hx
    rw [I.kindOf_eq ht, hkc]

theorem Inv.ok_fire {cap s} (I : Inv cap s) (c : Nat) (hc : c = 6 ∨ c = 7) (ids : List Nat)
    (hk : ∀ x ∈ ids, ∃ t, s.threads[x]? = some t ∧ t.kind.code = c) (m : Ev) (hm : m.k = .mark)
    (hfl : (s.quiescing = true → m.q = true) ∧ (s.sClosed = true → m.s = true) ∧ (s.dClosed = true → m.d = true))
    (hg : globalOk cap s.log m = true) : logOkFrom cap s.log (s.cancelEvs ids c ++ [m]) = true := by
  rw [logOkFrom_append, I.ok_cancelAll c hc ids hk, logOkFrom_single]
  refine evOk_cancelOnly (fun e he => ?_) (fun e he => ?_) (.inr hm) (evOk_mark hm hg)
  all_goals obtain ⟨x, _, rfl⟩ := List.mem_map.mp he
  · rfl
  · exact hfl

/-- the first critical section of Quiesce -/
theorem Inv.ok_quiesceEvs {cap s} (I : Inv cap s) (who : Nat) : logOkFrom cap s.log (s.quiesceEvs who) = true := by
  have hk : ∀ x ∈ s.qCancels, ∃ t, s.threads[x]? = some t ∧ t.kind.code = 6 := fun x hx =>
    (I.lists.q_thr x hx).imp fun _ h => ⟨h.1, congrArg Kind.code h.2⟩
  unfold St.quiesceEvs
  split
  · rw [List.append_nil]; exact I.ok_cancelAll 6 (.inl rfl) _ hk
  · exact I.ok_fire 6 (.inl rfl) _ hk _ rfl ⟨fun _ => rfl, id, id⟩ (I.ok_mark0 who)

/-- the critical section of Stop that closes the stop channel -/
theorem Inv.ok_stopEvs {cap s} (I : Inv cap s) (who : Nat) (hsp : s.sp = .drained) :
    logOkFrom cap s.log (s.cancelEvs s.sCancels 7 ++ [⟨.mark, who, 0, 2, s.quiescing, true, s.dClosed, s.sem⟩]) = true :=
  I.ok_fire 7 (.inr rfl) _ (fun x hx => (I.lists.s_thr x hx).imp fun _ h => ⟨h.1, congrArg Kind.code h.2⟩) _ rfl
    ⟨id, fun _ => rfl, id⟩ (I.ok_mark2 who hsp)

theorem Inv.ok_rule {cap s} (I : Inv cap s) {s' : St} {i : Nat} {t : Thread} (h : Rule s i t s')
    (ht : s.threads[i]? = some t) : ∃ es, s'.log = s.log ++ es ∧ logOkFrom cap s.log es = true := by
  have single : ∀ {e : Ev}, evOk cap s.log e = true → logOkFrom cap s.log [e] = true := fun h => (logOkFrom_single ..).trans h
  cases h
  all_goals refine ⟨_, rfl, ?_⟩
  case start | startA | startL => exact single (I.ok_bodyStart ht rfl)
  case finish | finishA | finishL => exact single (I.ok_bodyEnd ht rfl)
  case wStart => exact single (I.ok_wStart ht)
  case wEnd => exact single (I.ok_wEnd ht)
  case closerNow => exact single (I.ok_closerImm ht)
  case wcqNow | wcqCancel => exact single (I.ok_cancelFor (.inl rfl) (I.kindOf_eq ht))
  case wcsNow | wcsCancel => exact single (I.ok_cancelFor (.inr rfl) (I.kindOf_eq ht))
  case probe => exact single (I.ok_fin ht)
  case ret hv => exact single (I.ok_ret ht hv)
  case quiesce | stopQuiesce => exact I.ok_quiesceEvs i
  case stopDrained => exact single (evOk_mark rfl (I.globalOk_ev .mark i 0 1 rfl))
  case stopClose sp => exact I.ok_stopEvs i sp
  case stopWaited => exact single (evOk_mark rfl (I.globalOk_ev .mark i 0 3 rfl))
  case stopCloser sp hc => exact single (I.ok_closerLoop sp hc)
  case stopStopped sp hc => exact single (evOk_mark rfl (I.ok_mark4 i _ sp hc))
  all_goals rfl

theorem logOk_reach {cap : Nat} {s : St} (h : Reach cap s) : logOk cap s.log = true := by
  induction h using Reach.rules with
  | init => rfl
  | spawn s k hr ih =>
    simp only [spawn]
    rw [logOk_append, ih, logOkFrom_single, (inv_reach hr).ok_call k]; rfl
  | step s s' i t hr _ ht r ih =>
    obtain ⟨es, hl, hok⟩ := (inv_reach hr).ok_rule r ht
    rw [hl, logOk_append, ih, hok]; rfl

theorem reach_entry {cap : Nat} {s : St} (h : Reach cap s) {pre post : List Ev} {e : Ev} (hl : s.log = pre ++ e :: post) :
    globalOk cap pre e = true ∧ kindOk pre e = true :=
  evOk_iff.mp (logOk_entry (hl ▸ logOk_reach h))

end Shk.Stopper
