import ShkModel.Lemmas.Runner
import ShkModel.Lemmas.RunnerCode
import ShkModel.Lemmas.Life
/-!
# C07 — termination, cleanup, no process left behind: the command runner, and the life cycle around the body

The runner model is a finite transition system; every statement below is for **every** sequence of
events (output lines, the command closing its output, the command exiting, the shell exiting while
children it left behind keep the output, stop, cancel / time-out, term, two seconds passing) in any
order and of any length.  The four statements about the repaired runner (`watcher = true`) come from
a closure certificate (the reachable set, closed under all events) that the kernel evaluates per
parameter combination, on numeric codes of the states (`Lemmas/RunnerCode.lean`), lifted by
`closed_sound`.  The statements about `exit` hold for the pinned runner too and follow from an
invariant of the part of the state that signals never touch (`Lemmas/Runner.lean`).  The second part
is about `conduct` / `runConduct` (`Model/Life.lean`): the cleanups run once before and once after
the body, whatever happens.
-/
namespace Shk.C07
open Shk.Runner

/-- a set that contains the initial state and is closed under every event contains every
state any event sequence leads to -/
theorem closed_sound (p : Params) (S : List St) (h : closed p S = true) (evs : List Ev) :
    run p evs ∈ S := by
  simp only [closed, Bool.and_eq_true, List.all_eq_true] at h
  obtain ⟨h0, hc⟩ := h
  have hall : ∀ e : Ev, e ∈ allEvents := by intro e; cases e <;> simp [allEvents]
  suffices ∀ (evs : List Ev) (s : St), s ∈ S → evs.foldl (step p) s ∈ S by
    exact this evs {} (by simpa using h0)
  intro evs
  induction evs with
  | nil => intro s hs; simpa using hs
  | cons e es ih =>
    intro s hs
    have := hc s hs e (hall e)
    exact ih _ (by simpa using this)

/-- a predicate that holds on a closed set holds after every event sequence -/
theorem inv_of_closed (p : Params) (P : St → Bool)
    (h : (closed p (reachable p) && (reachable p).all P) = true) (evs : List Ev) :
    P (run p evs) = true := by
  simp only [Bool.and_eq_true, List.all_eq_true] at h
  exact h.2 _ (closed_sound p _ h.1 evs)

theorem params_complete (p : Params) : p ∈ allParams := by
  obtain ⟨a, b, d⟩ := p
  cases a <;> cases b <;> cases d <;> decide

/-- the certificate: for the repaired runner, every reachable state satisfies the four
properties, for every parameter combination -/
theorem certificate :
    (allParams.filter (·.watcher)).all (fun p =>
      closed p (reachable p) && (reachable p).all fun s =>
        interruptReaches p s && killedAfterGrace p s && returnsAfterExit s && noLateSignal s) = true := by
  -- evaluated on numeric codes of the states: comparing the records themselves along `reach` is slow in the kernel
  simp only [certified_eq]
  decide +kernel

/-- what the certificate says of one event sequence of the repaired runner -/
private theorem certified (p : Params) (hw : p.watcher = true) (evs : List Ev) :
    interruptReaches p (run p evs) = true ∧ killedAfterGrace p (run p evs) = true ∧
      returnsAfterExit (run p evs) = true ∧ noLateSignal (run p evs) = true := by
  have h := inv_of_closed p _ (List.all_eq_true.mp certificate p (by simp [params_complete, hw])) evs
  simp only [Bool.and_eq_true] at h
  exact ⟨h.1.1.1, h.1.1.2, h.1.2, h.2⟩

/-- **Whatever the command does with its output** (keeps it, closes it early as every action
and cleanup script does, …): once the stopper quiesces (interruptible commands), the context is
cancelled or its deadline passes (the 10 s cleanup time-out), or the prompter's termination
channel closes (spotlights), a command that is still running has had SIGHUP sent to its process
group (or was killed). -/
theorem interrupt_reaches_group (p : Params) (hw : p.watcher = true) (evs : List Ev) :
    interruptReaches p (run p evs) = true :=
  (certified p hw evs).1

/-- … and it is killed once two seconds have passed since the SIGHUP. -/
theorem killed_after_grace (p : Params) (hw : p.watcher = true) (evs : List Ev) :
    killedAfterGrace p (run p evs) = true :=
  (certified p hw evs).2.1

/-- the runner returns only after the process has exited and its output is closed -/
theorem returns_after_exit_and_eof (p : Params) (hw : p.watcher = true) (evs : List Ev) :
    returnsAfterExit (run p evs) = true :=
  (certified p hw evs).2.2.1

/-- no signal is sent to a process (group) that has already exited -/
theorem no_signal_after_exit (p : Params) (hw : p.watcher = true) (evs : List Ev) :
    noLateSignal (run p evs) = true :=
  (certified p hw evs).2.2.2

/-- **a command that exits ends the runner, whatever else happened before**: no event sequence keeps the runner of a
command whose whole process group is gone from returning -/
theorem exit_returns (p : Params) (evs : List Ev) : (run p (evs ++ [.exit])).phase = .returned := by
  simp only [run, List.foldl_append, List.foldl_cons, List.foldl_nil]
  exact (congrArg Proc.phase (proc_step p _ .exit)).trans (Proc.exit_returns _ (run_proc_sane p evs))

/-- … whereas a shell that exits while children it left in the background hold its output does not: the runner goes on
reading (and, since bfee10c, signals those children when it is asked to stop: `interrupt_reaches_group` counts them) -/
theorem orphans_keep_the_runner (p : Params) (evs : List Ev)
    (h : (run p evs).orphans = true ∧ (run p evs).pipe = true) : (run p evs).phase ≠ .returned := by
  intro hr
  have hs := run_proc_sane p evs
  -- first clause of `sane`: a returned runner has seen its output close
  simp [Proc.sane, St.proc, hr, h.2] at hs

example : (run ⟨true, true, true⟩ [.exitKeep]).orphans = true ∧ (run ⟨true, true, true⟩ [.exitKeep]).phase = .reading ∧
    (run ⟨true, true, true⟩ [.exitKeep, .term]).hup = true ∧
    (run ⟨true, true, true⟩ [.exitKeep, .term, .eof]).phase = .returned := by decide

/-- **The pinned code violated the property**: an action or cleanup script redirects its own
output (`exec >>x.log`), the pipe reaches EOF, the runner leaves both loops with
`interrupt = false`, and a later stop finds nobody listening. -/
theorem old_runner_deaf_after_eof :
    interruptReaches ⟨true, false, false⟩ (run ⟨true, false, false⟩ [.eof, .stop]) = false := by decide

/-- the same for the cleanup time-out (commands that are not interruptible by the stopper) -/
theorem old_runner_ignores_timeout :
    interruptReaches ⟨false, false, false⟩ (run ⟨false, false, false⟩ [.eof, .cancel]) = false := by decide

/-- non-vacuity: the repaired runner on the same histories -/
example : (run ⟨true, false, true⟩ [.eof, .stop]).hup = true := by decide
example : (run ⟨true, false, true⟩ [.eof, .stop, .twoSec]).killed = true := by decide
example : (run ⟨false, false, true⟩ [.eof, .cancel, .twoSec, .exit]).phase = .returned := by decide


/-! ## The life cycle around the body: cleanups run once before and once after, whatever happens -/

open Shk.Life

/-- **shape of every run**: the initial cleanups of all actors, then — only if all of them
succeeded — the body followed by the final cleanups of all actors; nothing else, in this order,
for every outcome of the body, every outcome of the cleanups and every signal. -/
theorem run_shape (s : Scenario) :
    (runConduct s).1 = initEvs s.cleanups.length ++
      (if allInitOk s then .body :: finalEvs s.cleanups.length else []) := by
  unfold runConduct conduct
  by_cases h : allInitOk s <;> simp [h]

/-- **cleanup once before**: every actor's cleanup command runs exactly once before the body -/
theorem init_cleanup_each_once (s : Scenario) (i : Nat) (hi : i < s.cleanups.length) :
    (runConduct s).1.count (.initCleanup i) = 1 := by
  rw [run_shape]
  by_cases h : allInitOk s
  · simp [h, List.count_append, count_init, count_init_in_final, hi]
  · simp [h, count_init, hi]

/-- **… and once more after the last action**, provided the initial cleanups succeeded — also
when the body failed, when a final cleanup of another actor fails, and under every signal -/
theorem final_cleanup_each_once (s : Scenario) (i : Nat) (hi : i < s.cleanups.length) :
    (runConduct s).1.count (.finalCleanup i) = if allInitOk s then 1 else 0 := by
  rw [run_shape]
  by_cases h : allInitOk s
  · simp [h, List.count_append, count_final, count_final_in_init, hi]
  · simp [h, count_final_in_init]

/-- a signal never changes which cleanups run -/
theorem signal_never_skips_cleanup (s : Scenario) (g : Option Sig) :
    (runConduct { s with sig := g }).1 = (runConduct s).1 := by
  simp [runConduct, conduct, allInitOk, allFinalOk]

/-- **exit status**: non-zero exactly when an initial cleanup failed, the body reported an error,
a final cleanup failed, or the play was interrupted by SIGINT (SIGTERM and SIGHUP by themselves
leave the status alone) -/
theorem exit_status (s : Scenario) :
    (runConduct s).2 = (!allInitOk s || s.bodyErr || !allFinalOk s || s.sig == some .int) := by
  unfold runConduct conduct
  by_cases h : allInitOk s <;> simp [h]

theorem sigterm_alone_is_success (s : Scenario) (h1 : allInitOk s = true) (h2 : s.bodyErr = false)
    (h3 : allFinalOk s = true) (h4 : s.sig = some .term) : (runConduct s).2 = false := by
  rw [exit_status]; simp [h1, h2, h3, h4]

/-- non-vacuity: two actors, SIGTERM, everything else fine: four cleanup runs around the body -/
example : runConduct ⟨[⟨true, true⟩, ⟨true, true⟩], false, some .term⟩ =
    ([.initCleanup 0, .initCleanup 1, .body, .finalCleanup 0, .finalCleanup 1], false) := by decide

/-- an initial cleanup fails: no body, no second round, error -/
example : runConduct ⟨[⟨true, true⟩, ⟨false, true⟩], false, none⟩ =
    ([.initCleanup 0, .initCleanup 1], true) := by decide

/-- witness for the interruptible-cleanup variant (the round-2 seed of C07): under a signal the
second round is lost -/
theorem interruptible_cleanup_loses_final :
    (runConductInterruptibleCleanup ⟨[⟨true, true⟩], false, some .term⟩).1.count (.finalCleanup 0) = 0 := by
  decide


end Shk.C07
