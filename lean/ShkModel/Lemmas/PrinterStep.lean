import ShkModel.Lemmas.PrinterAudInv
/-! Lemmas for C10: every clause the parser accepts keeps the invariant `Inv` (`inv_step`: an audience clause by
`PrinterAudInv`, an interpretation clause because it keeps every member's clauses, `KeepsClauses`); so does `load`. -/
set_option linter.unusedVariables false
namespace Shk.Printer
open Shk.Story (Act)

/-- the pair of facts carried through the audience clauses -/
def Good (mt : String → Act → Bool) (c c' : Cfg) : Prop := AudInv c' ∧ SameHead c c'

theorem good_pAudits {c c' : Cfg} {n : String} {e : Ex} (hinv : AudInv c) (h : pAudits c n e = some c') :
    AudInv c' ∧ SameHead c c' ∧ (getMember c' n).active = some e ∧
      (getMember c' n).expects = (getMember c n).expects := by
  refine ⟨audInv_pAudits hinv h, ?_⟩
  obtain ⟨-, -, rfl⟩ := pAudits_iff.mp h
  simp only [getMember_put, observing, getMember_name, if_true, and_self, and_true]
  exact sameHead_put _ _

/-- `ensureAuditCond` is the `expects like` variant for a target that audits throughout -/
theorem needCond_eq (c : Cfg) (n : String) :
    needCond c n = likeCond c n { name := n, active := some Ex.tt } := rfl

theorem good_cond {c c' : Cfg} {n : String} {tg : Member} (hinv : AudInv c) (h : likeCond c n tg = some c') :
    AudInv c' ∧ SameHead c c' ∧ (getMember c' n).active.isSome = true ∧
      ((getMember c n).expects = none → (getMember c' n).expects = none) := by
  unfold likeCond at h
  cases ha : (getMember c n).active with
  | some x =>
    obtain rfl : c = c' := by simpa [ha] using h
    exact ⟨hinv, .refl _, by rw [ha]; rfl, id⟩
  | none =>
    cases ht : tg.active with
    | none => simp [ha, ht] at h
    | some ta =>
      obtain ⟨h1, h2, h3, h4⟩ := good_pAudits hinv (by simpa [ha, ht] using h)
      exact ⟨h1, h2, by rw [h3]; rfl, fun he => h4.trans he⟩

theorem good_watchAll (n s : String) : ∀ (as : List String) (c c' : Cfg), AudInv c →
    watchAll n s as c = some c' → AudInv c' ∧ SameHead c c'
  | [], c, c', hinv, h => by cases h; exact ⟨hinv, .refl _⟩
  | a :: as, c, c', hinv, h => by
    rw [watchAll] at h
    cases h1 : pWatchActor c n a s with
    | none => simp [h1] at h
    | some c1 =>
      obtain ⟨hok, rfl⟩ := pWatchActor_iff.mp h1
      obtain ⟨h2, h3⟩ := good_watchAll n s as _ c' (audInv_addObs (v := .sig a s) hinv hok) (by simpa [h1] using h)
      exact ⟨h2, (sameHead_put _ _).trans h3⟩

theorem good_stepAud {c c' : Cfg} {n : String} {cl : AClause} (hinv : AudInv c)
    (h : stepAud c n cl = some c') : AudInv c' ∧ SameHead c c' := by
  cases cl with
  | audits e => exact ⟨(good_pAudits hinv h).1, (good_pAudits hinv h).2.1⟩
  | assign a =>
    rw [stepAud] at h
    cases h1 : needCond c n with
    | none => simp [h1] at h
    | some c1 =>
      obtain ⟨i1, s1, a1, -⟩ := good_cond hinv (needCond_eq c n ▸ h1)
      have h2 : pAssign c1 n a = some c' := by simpa [h1] using h
      obtain ⟨-, -, -, rfl⟩ := pAssign_iff.mp h2
      exact ⟨audInv_pAssign i1 a1 h2, s1.trans (sameHead_put _ _)⟩
  | expects md e =>
    rw [stepAud] at h
    cases h1 : needCond c n with
    | none => simp [h1] at h
    | some c1 =>
      obtain ⟨i1, s1, a1, -⟩ := good_cond hinv (needCond_eq c n ▸ h1)
      have h2 : pExpects c1 n md e = some c' := by simpa [h1] using h
      obtain ⟨-, -, rfl⟩ := pExpects_iff.mp h2
      exact ⟨audInv_pExpects i1 a1 h2, s1.trans (sameHead_put _ _)⟩
  | expectsLike t =>
    rw [stepAud] at h
    cases h0 : findMember c t with
    | none => simp [h0] at h
    | some tg =>
      rcases h1 : tg.expects with _ | ⟨md, te⟩
      · simp [h0, h1] at h
      · cases h2 : (getMember c n).expects with
        | some y => simp [h0, h1, h2] at h
        | none =>
          cases h3 : likeCond c n tg with
          | none => simp [h0, h1, h2, h3] at h
          | some c1 =>
            obtain ⟨i1, s1, a1, -⟩ := good_cond hinv h3
            have h4 : pExpects c1 n md te = some c' := by simpa [h0, h1, h2, h3] using h
            obtain ⟨-, -, rfl⟩ := pExpects_iff.mp h4
            exact ⟨audInv_pExpects i1 a1 h4, s1.trans (sameHead_put _ _)⟩
  | watchSig t s =>
    cases t with
    | actor a =>
      obtain ⟨hok, rfl⟩ := pWatchActor_iff.mp h
      exact ⟨audInv_addObs (v := .sig a s) hinv hok, sameHead_put _ _⟩
    | every r =>
      rw [stepAud] at h
      cases h1 : findRole c r with
      | none => simp [h1] at h
      | some ro => exact good_watchAll n s _ c c' hinv (by simpa [h1] using h)
  | watchVar v =>
    obtain ⟨hok, rfl⟩ := pWatchVar_iff.mp h
    exact ⟨audInv_addObs (v := .comp v) hinv hok, sameHead_put _ _⟩
  | measures l =>
    obtain ⟨-, rfl⟩ := pMeasures_iff.mp h
    exact ⟨audInv_pMeasures hinv h, sameHead_put _ _⟩
  | onlyHelps => cases h; exact ⟨audInv_pHelps hinv, sameHead_put _ _⟩

/-- `g` only touches the interpretation -/
structure KeepsClauses (g : Member → Member) : Prop where
  name : ∀ m, (g m).name = m.name
  active : ∀ m, (g m).active = m.active
  assigns : ∀ m, (g m).assigns = m.assigns
  expects : ∀ m, (g m).expects = m.expects
  obs : ∀ m, (g m).obs = m.obs
  ylabel : ∀ m, (g m).ylabel = m.ylabel
  noplot : ∀ m, (g m).noplot = m.noplot

theorem keeps_setFoul (good : Bool) (f : Foul) : KeepsClauses (setFoul good f) := by
  refine ⟨?_, ?_, ?_, ?_, ?_, ?_, ?_⟩ <;> intro m <;> unfold setFoul <;> split <;> rfl

theorem KeepsClauses.chainOf {g : Member → Member} (h : KeepsClauses g) (m : Member) :
    chainOf (g m) = chainOf m := by
  simp only [Shk.Printer.chainOf, h.active, h.assigns, h.expects]

theorem KeepsClauses.canon {g : Member → Member} (h : KeepsClauses g) (m : Member) :
    canon (g m) = canon m := by
  simp only [Shk.Printer.canon, h.chainOf, Shk.Printer.freeOf, h.obs, h.ylabel, h.noplot]

/-- nothing in the audience invariant looks at the interpretation -/
theorem audInv_map {c : Cfg} {g : Member → Member} (hg : KeepsClauses g) (hinv : AudInv c) :
    AudInv { c with members := c.members.map g } := by
  have hT : targetsOf (c.members.map g) = targetsOf c.members := by
    simp only [targetsOf, List.flatMap_map, hg.assigns]
  have hv : ∀ v, VarStatic c c.members v → VarStatic { c with members := c.members.map g } (c.members.map g) v :=
    fun v h => by
      cases v with
      | comp k => simpa [VarStatic, hT] using h
      | sig a s => exact h
  obtain ⟨rk, hr⟩ := hinv.ranked
  have hs := hinv.static
  refine ⟨⟨?_, ?_, ?_, hT ▸ hs.targets, ?_, ?_⟩, ?_, ⟨rk, ?_, ?_, ?_⟩⟩
  · simpa only [List.map_map, Function.comp_def, hg.name] using hs.names
  · simpa only [List.forall_mem_map, hg.active, hg.assigns, hg.expects] using hs.m3
  · simp only [List.forall_mem_map, hg.chainOf, hg.obs]
    exact fun m hm x hx e he v hvv => (hs.exVars m hm x hx e he v hvv).imp_left (hv v)
  · simp only [List.forall_mem_map, hg.obs]
    exact fun m hm => (hs.obs m hm).imp_right fun h v hvv => hv v (h v hvv)
  · simpa only [List.forall_mem_map, hg.assigns] using hs.assignOk
  · simpa only [List.forall_mem_map, hg.canon] using hinv.nonempty
  · simpa only [List.forall_mem_map, hg.canon, hg.assigns, hg.name] using hr.uses
  · simpa only [List.forall_mem_map, hg.chainOf, hg.name] using hr.chain
  · simpa only [List.pairwise_map, hg.canon, hg.name] using hr.first

theorem good_stepInterp {c c' : Cfg} {cl : IClause} (hinv : AudInv c) (h : stepInterp c cl = some c') :
    AudInv c' ∧ SameHead c c' := by
  cases cl with
  | ignoreAll good => cases h; exact ⟨audInv_map (keeps_setFoul good .ignore) hinv, ⟨rfl, rfl, rfl, rfl, rfl, rfl⟩⟩
  | set mode t good =>
    rw [stepInterp] at h
    cases hf : findMember c t with
    | none => simp [hf] at h
    | some m =>
      obtain rfl : putMember c (setFoul good mode m) = c' := by simpa [hf] using h
      have hk := keeps_setFoul good mode
      obtain rfl : getMember c t = m := by simp [getMember, hf]
      have hmem := List.mem_of_find?_eq_some hf
      exact ⟨audInv_free hinv ((hk.name _).trans (getMember_name c t)) (hk.active _) (hk.assigns _)
        (hk.expects _) ((hk.obs _).symm ▸ ⟨(hinv.static.obs _ hmem).1, fun _ h => h, fun _ h => .inl h⟩)
        (fun h => (hk.ylabel _).symm ▸ h) (fun h => (hk.noplot _).symm ▸ h)
        ((hk.canon _).symm ▸ hinv.nonempty _ hmem), sameHead_put _ _⟩

theorem inv_of_good {mt : String → Act → Bool} {c c' : Cfg} (hinv : Inv mt c) (h : Good mt c c') : Inv mt c' :=
  ⟨hinv.head.congr h.2, h.1⟩

theorem inv_step {mt : String → Act → Bool} {c c' : Cfg} {cl : Clause} (hinv : Inv mt c)
    (h : step mt c cl = some c') : Inv mt c' := by
  cases cl with
  | title s | author s | attention s | tempo ns | repeatTime d | repeatCount k =>
    cases h; exact hinv.congr ⟨rfl, rfl, rfl, rfl, rfl, rfl⟩ rfl
  | role name ext items => exact inv_stepRole hinv h
  | cast name mul role env => exact inv_stepCast hinv h
  | entails ch t actions => exact inv_entails hinv h
  | mood ch starts m => exact inv_mood hinv h
  | storyline text => exact inv_storyline hinv h
  | edit f => exact inv_edit hinv h
  | repeatFrom re => cases h; exact inv_repeatFrom re hinv
  | aud n cl => exact inv_of_good hinv (good_stepAud hinv.aud h)
  | interp cl => exact inv_of_good hinv (good_stepInterp hinv.aud h)

theorem inv_init (mt : String → Act → Bool) : Inv mt Cfg.init :=
  have e : ∀ {α : Type} {P : α → Prop}, ∀ x ∈ ([] : List α), P x := fun _ h => nomatch h
  { head := { roleNames := .nil, roles := e, actorNames := .nil, actorRole := e, sceneChars := .nil,
              scenes := e, story := ⟨e, e⟩, rep := fun _ h => nomatch h }
    aud := { static := { names := .nil, m3 := e, exVars := e, targets := ⟨.nil, e⟩, obs := e, assignOk := e }
             nonempty := e, ranked := ⟨fun _ _ => 0, e, e, .nil⟩ } }

theorem inv_loadFrom {mt : String → Act → Bool} : ∀ (l : List Clause) (c c' : Cfg), Inv mt c →
    loadFrom mt c l = some c' → Inv mt c'
  | [], c, c', hinv, h => by cases h; exact hinv
  | x :: l, c, c', hinv, h => by
    rw [loadFrom_cons] at h
    cases hs : step mt c x with
    | none => simp [hs] at h
    | some c1 => exact inv_loadFrom l c1 c' (inv_step hinv hs) (by simpa [hs] using h)

theorem inv_load {mt : String → Act → Bool} {l : List Clause} {c : Cfg} (h : load mt l = some c) :
    Inv mt c := inv_loadFrom l Cfg.init c (inv_init mt) h

end Shk.Printer
