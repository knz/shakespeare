import ShkModel.Lemmas.Plot
/-!
# C19 — the plot script shows exactly the data that was collected

Model: `ShkModel/Model/Plot.lean`.  `plotModel` follows the loops, skip tests and counters of
`plot.go`; `plotSpec` is written from the property text.  Every theorem is for all facts: any cast,
any audience, any number of watched variables, mood periods, acts, any time range.

The abstract plot ends where gnuplot begins (claim level: partial).  Times are exact rationals.
Hypotheses on the time range are the ones `assemble` (result.go) establishes for every play:
`result_range` proves them for `rangeOf`, the model of `expandTimeRange` + `assemble`.
-/
namespace Shk.C19
open Shk.Plot

/-- the members that get a box: received data and not `only helps` -/
def shown (f : Facts) : List Member := f.audience.filter fun m => m.hasData && !m.onlyHelps

/-- What `plot.go` writes is what the property describes — x range, action
lanes, boxes with their curves, bands, act lines, the zoomed copy and the `load` list of
`runme.gp` — for every play. -/
theorem model_meets_spec (f : Facts) : plotModel f = plotSpec f := by
  simp only [plotModel, plotSpec, subPlots_eq]
  cases h : f.repeatStart <;> simp [loadsOnce, specSub]

/-- The axis is `[MinTime, MaxTime]` widened by exactly one twentieth (5 %) of
`MaxTime - MinTime` on each side (`.05 * visibleDuration` in the code). -/
theorem xrange_margin (f : Facts) :
    (plotModel f).main.xmin = f.minTime - (f.maxTime - f.minTime) / 20 ∧
    (plotModel f).main.xmax = f.maxTime + (f.maxTime - f.minTime) / 20 := by
  simp [plotModel, subPlots, widenLo_eq, widenHi_eq]

/-- the range `assemble` hands over has width at least 1, so the margin is real: the axis
strictly contains `[MinTime, MaxTime]`. -/
theorem xrange_contains (f : Facts) (hw : f.minTime + 1 ≤ f.maxTime) :
    (plotModel f).main.xmin < f.minTime ∧ f.maxTime < (plotModel f).main.xmax :=
  widen_lt (by grind only)

/-- What `expandTimeRange` + `assemble` make of the instants of all collected
events: `MinTime ≤ 0`, `MinTime + 1 ≤ MaxTime`, and every collected instant lies in
`[MinTime, MaxTime]`. -/
theorem result_range (instants : List Rat) :
    (rangeOf instants).1 ≤ 0 ∧ (rangeOf instants).1 + 1 ≤ (rangeOf instants).2 ∧
    ∀ t ∈ instants, (rangeOf instants).1 ≤ t ∧ t ≤ (rangeOf instants).2 :=
  ⟨(rangeOf_shape instants).1, (rangeOf_shape instants).2, fun _ ht => rangeOf_covers ht⟩

/-- One lane per actor that performed an action, in cast order, numbered 1, 2, …; the
box is as high as the number of lanes + 1. -/
theorem lanes (f : Facts) :
    (plotModel f).main.lanes = ((f.cast.filter (·.hasData)).map (·.name)).zipIdx 1 ∧
    (plotModel f).main.laneTop = (f.cast.filter (·.hasData)).length + 1 := by
  rw [model_meets_spec]
  simp [plotSpec, specSub, activeActors]

/-- the same, read off lane by lane -/
theorem lanes_pointwise (f : Facts) :
    (plotModel f).main.lanes.map (·.1) = (f.cast.filter (·.hasData)).map (·.name) ∧
    (plotModel f).main.lanes.map (·.2) = List.range' 1 (f.cast.filter (·.hasData)).length := by
  rw [(lanes f).1]
  exact ⟨by simp, by simp⟩

/-- an actor that never acted has no lane -/
theorem silent_actor_no_lane (f : Facts) (a : Actor) (ha : a ∈ f.cast) (hd : a.hasData = false)
    (huniq : ∀ b ∈ f.cast, b.name = a.name → b = a) :
    a.name ∉ (plotModel f).main.lanes.map (·.1) := by
  rw [(lanes_pointwise f).1]
  intro h
  obtain ⟨b, hb, hn⟩ := List.mem_map.mp h
  obtain ⟨hb1, hb2⟩ := List.mem_filter.mp hb
  have := huniq b hb1 hn
  subst this
  simp [hd] at hb2

/-- One box per member that received data and is not `only helps`, in declaration
order; the layout has one row more (the action box). -/
theorem boxes (f : Facts) :
    (plotModel f).main.boxes = (shown f).map specBox ∧
    (plotModel f).main.boxes.map (·.member) = (shown f).map (·.name) ∧
    (plotModel f).main.rows = (shown f).length + 1 := by
  rw [model_meets_spec]
  refine ⟨rfl, ?_, ?_⟩
  · simp only [plotSpec, specSub, shown, List.map_map]
    apply List.map_congr_left
    intro m _
    rfl
  · simp only [plotSpec, specSub, shown]
    omega

/-- under the collector's bookkeeping no box is empty (gnuplot would reject `plot` without a
curve) -/
theorem boxes_nonempty (f : Facts) (hc : ∀ m ∈ f.audience, m.consistent) :
    ∀ b ∈ (plotModel f).main.boxes, b.curves ≠ [] := by
  rw [(boxes f).1]
  intro b hb he
  obtain ⟨m, hm, rfl⟩ := List.mem_map.mp hb
  obtain ⟨hm1, hm2⟩ := List.mem_filter.mp hm
  -- the member has data, so one of its watched variables or its auditor has
  have hd : (m.watched.any (·.hasData) || m.audited) = true := (hc m hm1).symm.trans (Bool.and_eq_true_iff.mp hm2).1
  obtain ⟨h1, h2⟩ := List.append_eq_nil_iff.mp he
  rcases Bool.or_eq_true_iff.mp hd with h | h
  · obtain ⟨w, hw, hwd⟩ := List.any_eq_true.mp h
    have hl := (specCurves_length 0 (withData m)).symm.trans (congrArg List.length h1)
    exact List.ne_nil_of_mem (List.mem_filter.mpr ⟨hw, hwd⟩) (List.eq_nil_of_length_eq_zero hl)
  · rw [h] at h2
    cases h2

/-- The box of a member holds one curve per watched variable that received data, in
watch order, then the two curves of the audit file exactly when the auditor reported. -/
theorem curves (m : Member) :
    (groupOf m).curves = specCurves 0 (withData m) ++ (if m.audited then [Curve.faces, Curve.verdicts] else []) ∧
    (groupOf m).yTop = (if eventCount (withData m) > 0 then some (eventCount (withData m) + 1) else none) := by
  rw [groupOf_eq]
  simp [specBox]

/-- the i-th curve is that of the i-th watched variable with data: an event signal as labelled
points on lane 1 + (number of event signals in front of it), anything else as a line. -/
theorem curves_pointwise (m : Member) (i : Nat) (h : i < (withData m).length) :
    (groupOf m).curves[i]? = some (curveOf (withData m)[i] (eventCount ((withData m).take i))) := by
  rw [(curves m).1, List.getElem?_append_left (by rw [specCurves_length]; exact h)]
  rw [List.getElem?_eq_getElem (by rw [specCurves_length]; exact h), specCurves_get 0 _ i h]
  simp

/-- the event lanes of a box (its curves are `specCurves 0 (withData m)`: `curves`) are 1, 2, …, n without gap or
repetition -/
theorem event_lanes (ws : List Watched) (k : Nat) :
    (specCurves k ws).filterMap (fun c => match c with | .events _ _ l => some l | _ => none) =
      List.range' (k + 1) (eventCount ws) := by
  induction ws generalizing k with
  | nil => simp [specCurves, eventCount]
  | cons w ws ih =>
    obtain ⟨a, s, kd, d⟩ := w
    cases kd with
    | event =>
      have he : (Watched.mk a s .event d).isEvent = true := rfl
      simp only [specCurves, curveOf, List.filterMap_cons, eventCount_cons, he, if_true]
      rw [ih, Nat.add_comm 1 (eventCount ws), List.range'_succ]
    | scalar =>
      have he : (Watched.mk a s .scalar d).isEvent = false := rfl
      simp only [specCurves, curveOf, List.filterMap_cons, eventCount_cons, he]
      rw [ih]
      simp

/-- The audit verdicts are drawn ⇔ the auditor reported -/
theorem audit_curves_iff (m : Member) :
    (Curve.faces ∈ (groupOf m).curves ↔ m.audited = true) ∧
    (Curve.verdicts ∈ (groupOf m).curves ↔ m.audited = true) := by
  rw [(curves m).1]
  have h := specCurves_no_audit 0 (withData m)
  cases m.audited <;> simp [h.1, h.2]

/-- a watched variable without data has no curve: the number of variable curves is the number of
variables with data -/
theorem curves_count (m : Member) :
    (groupOf m).curves.length = (withData m).length + (if m.audited then 2 else 0) := by
  rw [(curves m).1, List.length_append, specCurves_length]
  cases m.audited <;> simp

/-- the bands of a script: the periods that meet its x range, each cut at the borders -/
theorem bands (f : Facts) :
    (plotModel f).main.bands =
      (f.moods.filter fun p => p.meets (plotModel f).main.xmin (plotModel f).main.xmax).map
        (specBand (plotModel f).main.xmin (plotModel f).main.xmax) := by
  rw [model_meets_spec]
  simp [plotSpec, specSub]

/-- In `plot.gp` every recorded (= non-clear) mood period that starts inside
`[MinTime, MaxTime]` gets a band of its mood that begins at its start; the skip test cannot fire
because the range `assemble` hands over has positive width, so `MaxTime` lies strictly inside the
axis.  (Hypotheses: `MinTime + 1 ≤ MaxTime` — `result_range`; the period is not reversed.) -/
theorem every_mood_banded (f : Facts) (hw : f.minTime + 1 ≤ f.maxTime) (p : Period) (hp : p ∈ f.moods)
    (h1 : f.minTime ≤ p.start) (h2 : p.start ≤ f.maxTime) (h3 : p.start ≤ p.stop) :
    ∃ b ∈ (plotModel f).main.bands, b.lo = .at p.start ∧ b.mood = p.mood ∧
      b.hi = (if (plotModel f).main.xmax < p.stop then .right else .at p.stop) := by
  obtain ⟨hx1, hx2⟩ := xrange_contains f hw
  have hlo := lt_of_lt_of_le hx1 h1
  rw [bands]
  exact ⟨specBand _ _ p, List.mem_map.mpr ⟨p, List.mem_filter.mpr
      ⟨hp, meets_of_instant Rat.le_refl h3 hlo (lt_of_le_of_lt h2 hx2)⟩, rfl⟩,
    if_neg (Rat.not_lt.mpr (Rat.le_of_lt hlo)), rfl, rfl⟩

/-- when all periods start inside the result's range (every mood change is a collected event),
no period is dropped and the order is kept -/
theorem all_moods_banded (f : Facts) (hw : f.minTime + 1 ≤ f.maxTime)
    (hall : ∀ p ∈ f.moods, f.minTime ≤ p.start ∧ p.start ≤ f.maxTime ∧ p.start ≤ p.stop) :
    (plotModel f).main.bands =
      f.moods.map (specBand (plotModel f).main.xmin (plotModel f).main.xmax) := by
  obtain ⟨hx1, hx2⟩ := xrange_contains f hw
  rw [bands]
  congr 1
  apply List.filter_eq_self.mpr
  intro p hp
  obtain ⟨h1, h2, h3⟩ := hall p hp
  exact meets_of_instant Rat.le_refl h3 (lt_of_lt_of_le hx1 h1) (lt_of_le_of_lt h2 hx2)

/-- a band is the period cut to the axis: it lies at `max xmin start … min xmax stop` -/
theorem band_extent (xmin xmax : Rat) (p : Period) :
    (specBand xmin xmax p).lo.pos xmin xmax = max xmin p.start ∧
    (specBand xmin xmax p).hi.pos xmin xmax = min xmax p.stop := by
  simp only [specBand, Rat.max_def, Rat.min_def]
  constructor
  · split
    · exact (if_neg (Rat.not_le.mpr ‹_›)).symm
    · exact (if_pos (Rat.not_lt.mp ‹_›)).symm
  · split
    · exact (if_pos (Rat.le_of_lt ‹_›)).symm
    · split
      · exact Rat.le_antisymm (Rat.not_lt.mp ‹_›) ‹_›
      · rfl

/-- What `audit.go` records: on a stage whose mood changes are `changes` (in
time order) and whose audition ends at `elapsed`, every instant before the end whose mood is not
`clear` lies in a recorded period of exactly that mood. -/
theorem periods_cover (changes : List (Rat × String)) (elapsed x : Rat)
    (hs : changes.Pairwise fun a b => a.1 ≤ b.1) (hx : x < elapsed)
    (hm : moodAt "clear" changes x ≠ "clear") :
    ∃ p ∈ periodsOf changes elapsed, p.mood = moodAt "clear" changes x ∧ p.start ≤ x ∧ x < p.stop :=
  periods_cover_from changes ⟨"clear", 0, []⟩ x elapsed hs hx (by simp) hm

/-- Audition and plot together: every instant of `[MinTime, MaxTime]`
(before the end of the audition) at which the mood is not `clear` lies under a band of that
mood in `plot.gp`. -/
theorem mood_instant_banded (f : Facts) (changes : List (Rat × String)) (elapsed x : Rat)
    (hf : f.moods = periodsOf changes elapsed) (hw : f.minTime + 1 ≤ f.maxTime)
    (hs : changes.Pairwise fun a b => a.1 ≤ b.1) (hx : x < elapsed)
    (hx1 : f.minTime ≤ x) (hx2 : x ≤ f.maxTime) (hm : moodAt "clear" changes x ≠ "clear") :
    ∃ b ∈ (plotModel f).main.bands, b.mood = moodAt "clear" changes x ∧
      b.lo.pos (plotModel f).main.xmin (plotModel f).main.xmax ≤ x ∧
      x < b.hi.pos (plotModel f).main.xmin (plotModel f).main.xmax := by
  obtain ⟨p, hp, hpm, hp1, hp2⟩ := periods_cover changes elapsed x hs hx hm
  obtain ⟨hxa, hxb⟩ := xrange_contains f hw
  have hlo := lt_of_lt_of_le hxa hx1
  have hhi := lt_of_le_of_lt hx2 hxb
  rw [bands]
  refine ⟨specBand _ _ p, List.mem_map.mpr ⟨p, List.mem_filter.mpr
    ⟨hf ▸ hp, meets_of_instant hp1 (Rat.le_of_lt hp2) hlo hhi⟩, rfl⟩, hpm, ?_, ?_⟩
  · rw [(band_extent _ _ p).1, Rat.max_def]
    split
    · exact hp1
    · exact Rat.le_of_lt hlo
  · rw [(band_extent _ _ p).2, Rat.min_def]
    split
    · exact hhi
    · exact hp2

/-- the act lines of a script: every act start after the first that is not left of the axis -/
theorem act_lines_general (f : Facts) :
    (plotModel f).main.actLines =
      ((f.acts.drop 1).filter fun a => (plotModel f).main.xmin ≤ a.ts).map (·.ts) := by
  rw [model_meets_spec]
  simp [plotSpec, specSub]

/-- In `plot.gp` there is one vertical line per act start after the first —
repeated acts included, each start of a repeated act is a line — because no act starts before
`MinTime` (`MinTime ≤ 0 ≤` any instant measured from the start of the play). -/
theorem act_lines (f : Facts) (hw : f.minTime ≤ f.maxTime) (hall : ∀ a ∈ f.acts, f.minTime ≤ a.ts) :
    (plotModel f).main.actLines = (f.acts.drop 1).map (·.ts) := by
  rw [act_lines_general]
  congr 1
  apply List.filter_eq_self.mpr
  intro a ha
  exact decide_eq_true (Rat.le_trans (widen_le hw).1 (hall a (List.mem_of_mem_drop ha)))

/-- … and every act line is **on** the axis: since the repair c9d1f38 `assemble` widens the time range by the act
starts (an act without actions used to start beyond `MaxTime`), so `MinTime ≤ a.ts ≤ MaxTime` for every act start -/
theorem act_lines_on_the_axis (f : Facts) (hw : f.minTime ≤ f.maxTime)
    (hall : ∀ a ∈ f.acts, f.minTime ≤ a.ts ∧ a.ts ≤ f.maxTime) :
    ∀ x ∈ (plotModel f).main.actLines, (plotModel f).main.xmin ≤ x ∧ x ≤ (plotModel f).main.xmax := by
  intro x hx
  rw [act_lines f hw (fun a ha => (hall a ha).1)] at hx
  obtain ⟨a, ha, rfl⟩ := List.mem_map.mp hx
  have h := hall a (List.mem_of_mem_drop ha)
  exact ⟨Rat.le_trans (widen_le hw).1 h.1, Rat.le_trans h.2 (widen_le hw).2⟩

/-- the first act start is never a line, whatever its instant -/
theorem first_act_no_line (f : Facts) (a : ActStart) (as : List ActStart) (h : f.acts = a :: as) :
    (plotModel f).main.actLines.length ≤ as.length := by
  rw [act_lines_general, h]
  simp only [List.drop_succ_cons, List.drop_zero, List.length_map]
  exact List.length_filter_le _ _

/-- `lastplot.gp` is written, and loaded by `runme.gp`, exactly when the
result has a repeated section. -/
theorem zoom_iff_repeat (f : Facts) :
    ((plotModel f).zoom.isSome ↔ f.repeatStart.isSome) ∧
    ("lastplot.gp" ∈ (plotModel f).loads ↔ f.repeatStart.isSome) := by
  cases h : f.repeatStart <;> simp [plotModel, h, loadsOnce]

/-- the zoomed copy is the same plot — same lanes, same boxes with the same curves — on the axis
`[Repeat.StartTime, MaxTime]` with its own 5 % margin, with the bands and act lines that meet
that axis. -/
theorem zoom_same (f : Facts) (s : Rat) (h : f.repeatStart = some s) :
    ∃ z, (plotModel f).zoom = some z ∧
      z.lanes = (plotModel f).main.lanes ∧ z.laneTop = (plotModel f).main.laneTop ∧
      z.boxes = (plotModel f).main.boxes ∧ z.rows = (plotModel f).main.rows ∧
      z.xmin = s - (f.maxTime - s) / 20 ∧ z.xmax = f.maxTime + (f.maxTime - s) / 20 ∧
      z.bands = (f.moods.filter fun p => p.meets z.xmin z.xmax).map (specBand z.xmin z.xmax) ∧
      z.actLines = ((f.acts.drop 1).filter fun a => z.xmin ≤ a.ts).map (·.ts) := by
  refine ⟨_, zoom_eq f h, ?_⟩
  simp only [subPlots_eq, plotModel]
  simp [specSub]

/-- the axis of the zoomed copy is not reversed: the repeated section starts inside the time range (it starts at an act
start, and act starts are in the range since c9d1f38; before, `set xrange [1.21:0.99]` was written for a repeated act
without actions) -/
theorem zoom_axis_ordered (f : Facts) (s : Rat) (h : f.repeatStart = some s) (hs : s ≤ f.maxTime) :
    ∃ z, (plotModel f).zoom = some z ∧ z.xmin ≤ z.xmax :=
  ⟨_, zoom_eq f h, Rat.le_trans (widen_le hs).1 (Rat.le_trans hs (widen_le hs).2)⟩

/-- … and it is a real interval as soon as the repeated section starts before the end of the time range (it is a single
point when the section starts *at* `MaxTime` — `repeat 1 times` with an empty last act —, which gnuplot refuses: the code
does not exclude that, see DESIGN 10.3) -/
theorem zoom_axis_nonempty (f : Facts) (s : Rat) (h : f.repeatStart = some s) (hs : s < f.maxTime) :
    ∃ z, (plotModel f).zoom = some z ∧ z.xmin < z.xmax :=
  ⟨_, zoom_eq f h, Std.lt_trans (widen_lt hs).1 (Std.lt_trans hs (widen_lt hs).2)⟩

/-- … and it is reversed whenever the section starts beyond `MaxTime` (as a repeated act without actions did before
c9d1f38) -/
theorem zoom_axis_reversed_beyond_the_range (f : Facts) (s : Rat) (h : f.repeatStart = some s) (hs : f.maxTime < s) :
    ∃ z, (plotModel f).zoom = some z ∧ z.xmax < z.xmin :=
  ⟨_, zoom_eq f h, widen_reversed hs⟩

/-- Where the zoom begins: with no repeated act there is no repeated section;
otherwise it begins at the next-to-last start of the act named by `repeat from` (at its only
start when it started once). -/
theorem repeat_start (n : Nat) (acts : List ActStart) :
    repeatStartOf n acts = specRepeatStart n acts := by
  simp only [specRepeatStart]
  by_cases hn : n = 0
  · simp [repeatStartOf, hn]
  · have hn' : n > 0 := Nat.pos_of_ne_zero hn
    simp only [repeatStartOf, hn', if_true, hn, if_false, repeatLoop_eq]
    generalize (acts.filter fun a => a.num = n).map (·.ts) = occ
    rcases List.eq_nil_or_concat occ with rfl | ⟨l, x, rfl⟩
    · simp
    · rw [List.concat_eq_append, foldl_repStep_concat, List.reverse_append]
      rcases List.eq_nil_or_concat l with rfl | ⟨l', y, rfl⟩
      · simp
      · rw [List.concat_eq_append, foldl_repStep_concat, List.reverse_append]
        simp

/-! ## non-vacuity: a concrete play -/

/-- three actors of which two acted; an observer with an event and a scalar signal and a silent
variable; an `only helps` member; an auditor with verdicts only; a member without data; two mood
periods; four act starts of which the second act repeats. -/
def demo : Facts :=
  { cast := [⟨"a", true⟩, ⟨"s", false⟩, ⟨"b", true⟩]
    audience := [
      ⟨"al", false, true, [⟨"a", "val", .scalar, true⟩, ⟨"b", "ev", .event, false⟩, ⟨"a", "ev", .event, true⟩,
                            ⟨"", "dbl", .scalar, true⟩, ⟨"b", "ping", .event, true⟩], true⟩,
      ⟨"bo", true, true, [⟨"a", "val", .scalar, true⟩], false⟩,
      ⟨"ca", false, true, [], true⟩,
      ⟨"da", false, false, [⟨"b", "val", .scalar, false⟩], false⟩]
    moods := [⟨1/10, 3/10, "red"⟩, ⟨1/2, 2, "blue"⟩]
    acts := [⟨0, 1⟩, ⟨1/5, 2⟩, ⟨2/5, 2⟩, ⟨3/5, 2⟩]
    minTime := 0
    maxTime := 1
    repeatStart := some (2/5) }

example : plotModel demo =
    { main :=
        { xmin := -1/20, xmax := 21/20, rows := 3, actLines := [1/5, 2/5, 3/5]
          lanes := [("a", 1), ("b", 2)], laneTop := 3
          bands := [⟨.at (1/10), .at (3/10), "red"⟩, ⟨.at (1/2), .right, "blue"⟩]
          boxes := [⟨"al", [.line "a" "val", .events "a" "ev" 1, .line "" "dbl", .events "b" "ping" 2,
                            .faces, .verdicts], some 3⟩,
                    ⟨"ca", [.faces, .verdicts], none⟩] }
      zoom := some
        { xmin := 37/100, xmax := 103/100, rows := 3, actLines := [2/5, 3/5]
          lanes := [("a", 1), ("b", 2)], laneTop := 3
          bands := [⟨.at (1/2), .right, "blue"⟩]
          boxes := [⟨"al", [.line "a" "val", .events "a" "ev" 1, .line "" "dbl", .events "b" "ping" 2,
                            .faces, .verdicts], some 3⟩,
                    ⟨"ca", [.faces, .verdicts], none⟩] }
      loads := ["plot.gp", "lastplot.gp", "plot.gp", "lastplot.gp", "plot.gp", "lastplot.gp"]
      pageRows := 3 } := by decide +kernel

/-- the hypotheses of the theorems hold for it -/
example : demo.minTime + 1 ≤ demo.maxTime ∧ (∀ m ∈ demo.audience, m.consistent) ∧
    (∀ p ∈ demo.moods, demo.minTime ≤ p.start ∧ p.start ≤ demo.maxTime ∧ p.start ≤ p.stop) := by
  unfold Member.consistent
  decide +kernel

/-- the skip test is live code: in the zoomed script the first period is left out -/
example : (bandsLoop (37/100) (103/100) demo.moods).length = 1 := by decide +kernel

/-- `assemble` on an empty play, on a short one and on a long one -/
example : rangeOf [] = (0, 1) ∧ rangeOf [1/4, 1/10, 3/5] = (0, 1) ∧ rangeOf [1/4, 7/2, -2] = (-2, 7/2) := by
  decide +kernel

/-- the zoom starts at the next-to-last start of the repeated act -/
example : repeatStartOf 2 demo.acts = some (2/5) ∧ repeatStartOf 1 demo.acts = some 0 ∧
    repeatStartOf 3 demo.acts = none ∧ repeatStartOf 0 demo.acts = none := by decide +kernel

/-- the periods `audit.go` records: repeated moods do not split a period, `clear` closes one, an
open period is closed at the end of the audition -/
example : periodsOf [(1/10, "red"), (2/10, "red"), (3/10, "clear"), (1/2, "blue"), (7/10, "green")] 2 =
    [⟨1/10, 3/10, "red"⟩, ⟨1/2, 7/10, "blue"⟩, ⟨7/10, 2, "green"⟩] := by decide +kernel

end Shk.C19
