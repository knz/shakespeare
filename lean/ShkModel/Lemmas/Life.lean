import ShkModel.Model.Life
/-! How often each cleanup occurs among the events of the life-cycle model (C07). -/
namespace Shk.Life

/-- an injective numbering lists each of its first `n` values once -/
theorem count_map_range {α} [DecidableEq α] (f : Nat → α) (hf : ∀ a b, f a = f b → a = b) (n i : Nat) :
    ((List.range n).map f).count (f i) = if i < n then 1 else 0 := by
  rw [← List.count_range, List.count, List.countP_map, List.count]
  congr; funext a
  exact Bool.eq_iff_iff.mpr ⟨fun h => by simpa using hf _ _ (by simpa using h), fun h => by simp_all⟩

theorem count_init (n i : Nat) : (initEvs n).count (.initCleanup i) = if i < n then 1 else 0 :=
  count_map_range _ (fun _ _ h => Ev.initCleanup.inj h) n i

theorem count_final (n i : Nat) : (finalEvs n).count (.finalCleanup i) = if i < n then 1 else 0 :=
  count_map_range _ (fun _ _ h => Ev.finalCleanup.inj h) n i

theorem count_init_in_final (n i : Nat) : (finalEvs n).count (.initCleanup i) = 0 := by
  simp [finalEvs, List.count_eq_zero]

theorem count_final_in_init (n i : Nat) : (initEvs n).count (.finalCleanup i) = 0 := by
  simp [initEvs, List.count_eq_zero]

end Shk.Life
