import ShkModel.Model.Audition
/-!
# Marker words: what a trace shows for one auditor, and the two recognisers of activation periods

`proj n` reads off a trace the markers of the auditor named `n`.  Two recognisers read such a word:
`bstep` (brackets only: `(start (rep|err)* stop)*`) and `pstep` (brackets + the table states: every
`start` resets the tracked state to `T.start`, every report must be the `Table.fire` step of its
ghost label from the tracked state, `stop` must come right after the `end` report).
A word `pstep` accepts is accepted by `bstep` (`scan_of_track`), and between a `start` and the next `stop` it is
the verdicts of one `Table.period` from the start state (`track_body`).  Nothing here speaks of the audit loop.
-/
namespace Shk.Aud
open Shk

/-- the per-auditor view of the model trace, with the ghost label of each report -/
inductive Mk | start | rep (lbl : Nat) (r : Rep) | err | stop
deriving DecidableEq, Repr

def mkOf (n : String) : Out → Option Mk
  | .start a => if a = n then some .start else none
  | .rep _ a r l => if a = n then some (.rep l r) else none
  | .repErr _ a => if a = n then some .err else none
  | .stop a => if a = n then some .stop else none
  | .obs .. => none

def proj (n : String) (l : List Out) : List Mk := l.filterMap (mkOf n)

def runA {σ α : Type} (δ : σ → α → Option σ) : σ → List α → Option σ
  | p, [] => some p
  | p, a :: l =>
    match δ p a with
    | some p' => runA δ p' l
    | none => none

theorem runA_append {σ α : Type} (δ : σ → α → Option σ) (p : σ) (l1 l2 : List α) :
    runA δ p (l1 ++ l2) = (runA δ p l1).bind (fun p' => runA δ p' l2) := by
  induction l1 generalizing p with
  | nil => simp [runA]
  | cons a l ih =>
    simp only [List.cons_append, runA]
    cases δ p a with
    | none => simp
    | some p' => simpa using ih p'

theorem runA_cons {σ α : Type} {δ : σ → α → Option σ} {p p' : σ} {a : α} {l : List α}
    (h : runA δ p (a :: l) = some p') : ∃ q, δ p a = some q ∧ runA δ q l = some p' := by
  unfold runA at h
  cases hq : δ p a with
  | none => rw [hq] at h; cases h
  | some q => exact ⟨q, rfl, by rw [hq] at h; exact h⟩

/-- brackets only: state = inside a period? -/
def bstep : Bool → Mk → Option Bool
  | false, .start => some true
  | true, .rep _ _ => some true
  | true, .err => some true
  | true, .stop => some false
  | _, _ => none

/-- recogniser of `(start (rep|err)* stop)*` possibly followed by one open period;
the result is `some inside?` on acceptance. -/
def scan : Bool → List Mk → Option Bool := runA bstep

/-- state of the tracking recogniser: outside a period, inside in table state `q`, or after the `end` verdict, where
only `stop` may follow -/
inductive PS | out | ins (q : Nat) | ended
deriving DecidableEq, Repr

def startOf : Option Table → Nat
  | some T => T.start
  | none => 0

/-- brackets + table states.  With a table: `start` enters the period in `T.start`; a report with
label 0/1 must be the `fire` step from the tracked state; the report with label 2 (`end`) must be
the `fire` step too and must be followed by `stop`.  Without a table (no `expects`): `start stop`
only. -/
def pstep (T? : Option Table) : PS → Mk → Option PS
  | .out, .start => some (.ins (startOf T?))
  | .ins q, .rep l r =>
    match T? with
    | none => none
    | some T =>
      if r = (T.fire q l).2 then
        (if l = 2 then some .ended else if l < 2 then some (.ins (T.fire q l).1) else none)
      else none
  | .ins q, .err => if T?.isSome then some (.ins q) else none
  | .ins _, .stop => if T?.isSome then none else some .out
  | .ended, .stop => some .out
  | _, _ => none

def track (T? : Option Table) : PS → List Mk → Option PS := runA (pstep T?)

def PS.inside : PS → Bool
  | .out => false
  | _ => true

theorem pstep_ins_rep (T : Table) (q l : Nat) (r : Rep) :
    pstep (some T) (.ins q) (.rep l r) =
      if r = (T.fire q l).2 then
        (if l = 2 then some .ended else if l < 2 then some (.ins (T.fire q l).1) else none)
      else none := rfl

theorem pstep_rep_inv {T : Table} {q l : Nat} {r : Rep} {p' : PS}
    (h : pstep (some T) (.ins q) (.rep l r) = some p') :
    r = (T.fire q l).2 ∧ (l = 2 ∧ p' = .ended ∨ l < 2 ∧ p' = .ins (T.fire q l).1) := by
  rw [pstep_ins_rep] at h
  by_cases hr : r = (T.fire q l).2
  · rw [if_pos hr] at h
    refine ⟨hr, ?_⟩
    by_cases h2 : l = 2
    · rw [if_pos h2] at h; cases h; exact .inl ⟨h2, rfl⟩
    · rw [if_neg h2] at h
      by_cases h3 : l < 2
      · rw [if_pos h3] at h; cases h; exact .inr ⟨h3, rfl⟩
      · rw [if_neg h3] at h; cases h
  · rw [if_neg hr] at h; cases h

theorem bstep_of_pstep {T? : Option Table} {p q : PS} {k : Mk} (hq : pstep T? p k = some q) :
    bstep p.inside k = some q.inside := by
  cases p with
  | out => cases k <;> cases hq; rfl
  | ended => cases k <;> cases hq; rfl
  | ins q0 =>
    cases k with
    | start => cases hq
    | stop => cases T? <;> cases hq; rfl
    | err => cases T? <;> cases hq; rfl
    | rep l r =>
      cases T? with
      | none => cases hq
      | some T => obtain ⟨-, ⟨-, rfl⟩ | ⟨-, rfl⟩⟩ := pstep_rep_inv hq <;> rfl

theorem scan_of_track (T? : Option Table) (d : List Mk) : ∀ p p' : PS,
    track T? p d = some p' → scan p.inside d = some p'.inside := by
  induction d with
  | nil => intro p p' h; cases h; rfl
  | cons k d ih =>
    intro p p' h
    obtain ⟨q, hq, h⟩ := runA_cons h
    unfold scan runA
    rw [bstep_of_pstep hq]
    exact ih q p' h

def labelsOf (l : List Mk) : List Nat := l.filterMap fun | .rep lbl _ => some lbl | _ => none
def repsOf (l : List Mk) : List Rep := l.filterMap fun | .rep _ r => some r | _ => none

/-- what follows a `start` is read from the table's start state, whatever came before -/
theorem track_after_start {T? : Option Table} {p p' : PS} {pre rest : List Mk}
    (h : track T? p (pre ++ .start :: rest) = some p') :
    track T? (.ins (startOf T?)) rest = some p' := by
  unfold track at h
  rw [runA_append] at h
  obtain ⟨q, -, h⟩ := Option.bind_eq_some_iff.1 h
  cases q with
  | out => exact h
  | _ => cases h

theorem track_ended {T? : Option Table} {b : List Mk} {p' : PS} (h : track T? .ended b = some p')
    (hp : Mk.stop ∉ b) : b = [] ∧ p' = .ended := by
  cases b with
  | nil => cases h; exact ⟨rfl, rfl⟩
  | cons k b =>
    cases k with
    | stop => exact absurd (.head _) hp
    | _ => cases h

theorem track_rep {T : Table} {q l : Nat} {r : Rep} {b : List Mk} {p' : PS}
    (h : track (some T) (.ins q) (.rep l r :: b) = some p') :
    r = (T.fire q l).2 ∧ (l = 2 ∧ track (some T) .ended b = some p' ∨
      l < 2 ∧ track (some T) (.ins (T.fire q l).1) b = some p') := by
  obtain ⟨p1, hq, h⟩ := runA_cons h
  obtain ⟨hr, ⟨h2, rfl⟩ | ⟨h2, rfl⟩⟩ := pstep_rep_inv hq
  · exact ⟨hr, .inl ⟨h2, h⟩⟩
  · exact ⟨hr, .inr ⟨h2, h⟩⟩

theorem lbl_of_lt_two : ∀ {l : Nat}, l < 2 → Table.lbl (l == 0) = l
  | 0, _ => rfl
  | 1, _ => rfl

/-- the `end` verdict that is still due in a tracking state -/
def due (T : Table) : PS → List Mk
  | .ins q => [.rep 2 (T.fire q 2).2]
  | _ => []

/-- a stretch without `start`/`stop` that the tracking recogniser accepts from table state `q`, completed by the
`end` verdict if that is still due, is a complete period: verdicts for truth values `bs` (and evaluation errors),
then the `end` verdict, which is the last marker; the verdicts are `T.period q bs`. -/
theorem track_body (T : Table) (body : List Mk) : ∀ (q : Nat) (p' : PS),
    track (some T) (.ins q) body = some p' → Mk.start ∉ body → Mk.stop ∉ body →
    ∃ bs : List Bool, labelsOf (body ++ due T p') = bs.map Table.lbl ++ [2] ∧
      repsOf (body ++ due T p') = T.period q bs ∧ p' ≠ .out ∧
      (p' = .ended → ∃ b' r, body = b' ++ [Mk.rep 2 r]) := by
  induction body with
  | nil => intro q p' h _ _; cases h; exact ⟨[], rfl, rfl, nofun, nofun⟩
  | cons k body ih =>
    intro q p' h hs hp
    have hs' : Mk.start ∉ body := fun e => hs (.tail _ e)
    have hp' : Mk.stop ∉ body := fun e => hp (.tail _ e)
    cases k with
    | start => exact absurd (.head _) hs
    | stop => exact absurd (.head _) hp
    | err =>
      obtain ⟨bs, hl, hr, ho, hb⟩ := ih q p' h hs' hp'
      exact ⟨bs, hl, hr, ho, fun e => let ⟨b', r, hb⟩ := hb e; ⟨.err :: b', r, congrArg _ hb⟩⟩
    | rep l r =>
      obtain ⟨rfl, ⟨rfl, h2⟩ | ⟨hl, h2⟩⟩ := track_rep h
      · obtain ⟨rfl, rfl⟩ := track_ended h2 hp'
        exact ⟨[], rfl, rfl, nofun, fun _ => ⟨[], _, rfl⟩⟩
      · obtain ⟨bs, hl', hr, ho, hb⟩ := ih _ p' h2 hs' hp'
        refine ⟨(l == 0) :: bs, ?_, ?_, ho,
          fun e => let ⟨b', r, hb⟩ := hb e; ⟨.rep l _ :: b', r, congrArg _ hb⟩⟩
        · rw [List.map_cons, lbl_of_lt_two hl]; exact congrArg _ hl'
        · rw [Table.period, lbl_of_lt_two hl]; exact congrArg _ hr

theorem track_closed {T : Table} {p p' : PS} {pre body post : List Mk}
    (h : track (some T) p (pre ++ .start :: (body ++ .stop :: post)) = some p')
    (hs : Mk.start ∉ body) (hp : Mk.stop ∉ body) :
    ∃ bs : List Bool, labelsOf body = bs.map Table.lbl ++ [2] ∧ repsOf body = T.period T.start bs ∧
      ∃ b' r, body = b' ++ [Mk.rep 2 r] := by
  have h := track_after_start h
  unfold track at h
  rw [runA_append] at h
  obtain ⟨q, hq, h⟩ := Option.bind_eq_some_iff.1 h
  obtain ⟨bs, hl, hr, -, hb⟩ := track_body T body _ q hq hs hp
  cases q with
  | ended =>
    rw [show due T .ended = [] from rfl, List.append_nil] at hl hr
    exact ⟨bs, hl, hr, hb rfl⟩
  | _ => cases h  -- `stop` is accepted from `ended` only

theorem track_open {T : Table} {p : PS} {q' : Nat} {pre body : List Mk}
    (h : track (some T) p (pre ++ .start :: body) = some (.ins q'))
    (hs : Mk.start ∉ body) (hp : Mk.stop ∉ body) :
    ∃ bs : List Bool, labelsOf body = bs.map Table.lbl ∧
      T.period T.start bs = repsOf body ++ [(T.fire q' 2).2] := by
  obtain ⟨bs, hl, hr, -⟩ := track_body T body _ _ (track_after_start h) hs hp
  unfold labelsOf at hl
  unfold repsOf at hr
  rw [List.filterMap_append] at hl hr
  exact ⟨bs, List.append_cancel_right hl, hr.symm⟩

theorem pstep_plain {p q : PS} {k : Mk} (h : pstep none p k = some q) : k = .start ∨ k = .stop := by
  cases k with
  | start => exact .inl rfl
  | stop => exact .inr rfl
  | rep l r => cases p <;> cases h
  | err => cases p <;> cases h

theorem track_plain (l : List Mk) : ∀ p p' : PS, track none p l = some p' →
    ∀ k ∈ l, k = Mk.start ∨ k = Mk.stop := by
  induction l with
  | nil => intro _ _ _ _ hk; cases hk
  | cons k l ih =>
    intro p p' h k' hk
    obtain ⟨q, hq, h⟩ := runA_cons h
    cases hk with
    | head => exact pstep_plain hq
    | tail _ hk => exact ih q p' h k' hk

end Shk.Aud
