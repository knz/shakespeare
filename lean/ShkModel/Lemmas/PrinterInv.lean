import ShkModel.Lemmas.PrinterHead
import ShkModel.Lemmas.PrinterReplay
/-! Lemmas for C10: what every loaded configuration satisfies (`Inv`), and that the clauses in
front of the audience (roles, cast, script) keep it. -/
namespace Shk.Printer
open Shk.Story (Act)

/-- the audience of a loaded configuration: what `aud_reload` asks for -/
structure AudInv (c : Cfg) : Prop where
  static : AudStatic c c.members
  nonempty : ∀ m ∈ c.members, canon m ≠ []
  ranked : ∃ rk, Ranked c.members rk

structure Inv (mt : String → Act → Bool) (c : Cfg) : Prop where
  head : HeadInv mt c
  aud : AudInv c

/-- `c'` has the roles and actors of `c` and possibly more at the end -/
structure Grows (c c' : Cfg) : Prop where
  roles : ∃ l, c'.roles = c.roles ++ l
  actors : ∃ l, c'.actors = c.actors ++ l

theorem Grows.refl (c : Cfg) : Grows c c := ⟨⟨[], by simp⟩, ⟨[], by simp⟩⟩

theorem Grows.of_eq {c c' : Cfg} (hr : c'.roles = c.roles) (ha : c'.actors = c.actors) : Grows c c' :=
  ⟨⟨[], by simp [hr]⟩, ⟨[], by simp [ha]⟩⟩

theorem Grows.findRole {c c' : Cfg} (h : Grows c c') {n : String} {r : Role}
    (hr : findRole c n = some r) : findRole c' n = some r := by
  obtain ⟨l, hl⟩ := h.roles
  simp only [Shk.Printer.findRole, hl, List.find?_append] at hr ⊢
  rw [hr]; rfl

theorem Grows.findActor {c c' : Cfg} (h : Grows c c') {n : String} {a : Actor}
    (ha : findActor c n = some a) : findActor c' n = some a := by
  obtain ⟨l, hl⟩ := h.actors
  simp only [Shk.Printer.findActor, hl, List.find?_append] at ha ⊢
  rw [ha]; rfl

theorem Grows.sigOk {c c' : Cfg} (h : Grows c c') {a s : String} : SigOk c a s → SigOk c' a s :=
  fun ⟨act, r, h1, h2, h3⟩ => ⟨act, r, h.findActor h1, h.findRole h2, h3⟩

theorem Grows.sceneOk {c c' : Cfg} (h : Grows c c') {s : Scene} : SceneOk c s → SceneOk c' s :=
  fun ⟨h1, h2, h3⟩ => ⟨h1, h2, fun e he =>
    let ⟨a, r, ha, hr, hact⟩ := h3 e he; ⟨a, r, h.findActor ha, h.findRole hr, hact⟩⟩

theorem Grows.audStatic {c c' : Cfg} (h : Grows c c') {ms : List Member} (hs : AudStatic c ms) :
    AudStatic c' ms := by
  have hv : ∀ v, VarStatic c ms v → VarStatic c' ms v := fun v hv => by
    cases v with
    | comp n => exact hv
    | sig a s => exact h.sigOk hv
  exact { hs with
    exVars := fun m hm c hc e he v hvv => (hs.exVars m hm c hc e he v hvv).imp_left (hv v)
    obs := fun m hm => (hs.obs m hm).imp_right fun ho v hvv => hv v (ho v hvv) }

theorem Grows.audInv {c c' : Cfg} (h : Grows c c') (hm : c'.members = c.members) (hs : AudInv c) :
    AudInv c' :=
  ⟨hm ▸ h.audStatic hs.static, hm ▸ hs.nonempty, hm ▸ hs.ranked⟩

theorem AudInv.congr {c c' : Cfg} (h : AudInv c) (hr : c'.roles = c.roles) (ha : c'.actors = c.actors)
    (hm : c'.members = c.members) : AudInv c' :=
  (Grows.of_eq hr ha).audInv hm h

/-- the audience clauses leave roles, cast and script alone -/
structure SameHead (c c' : Cfg) : Prop where
  roles : c'.roles = c.roles
  actors : c'.actors = c.actors
  scenes : c'.scenes = c.scenes
  story : c'.story = c.story
  repFrom : c'.repFrom = c.repFrom
  repAct : c'.repAct = c.repAct

theorem SameHead.refl (c : Cfg) : SameHead c c := ⟨rfl, rfl, rfl, rfl, rfl, rfl⟩

theorem SameHead.trans {a b c : Cfg} (h1 : SameHead a b) (h2 : SameHead b c) : SameHead a c :=
  ⟨h2.roles.trans h1.roles, h2.actors.trans h1.actors, h2.scenes.trans h1.scenes, h2.story.trans h1.story,
   h2.repFrom.trans h1.repFrom, h2.repAct.trans h1.repAct⟩

theorem sameHead_put (c : Cfg) (m : Member) : SameHead c (putMember c m) := ⟨rfl, rfl, rfl, rfl, rfl, rfl⟩

theorem HeadInv.congr {mt : String → Act → Bool} {c c' : Cfg} (h : HeadInv mt c) (hs : SameHead c c') :
    HeadInv mt c' := by
  have hg : Grows c c' := .of_eq hs.roles hs.actors
  have ht : tblOf c' = tblOf c := by funext ch; simp [tblOf, sceneDefined, hs.scenes]
  exact ⟨hs.roles ▸ h.roleNames, hs.roles ▸ h.roles, hs.actors ▸ h.actorNames,
    hs.actors ▸ fun a ha => (h.actorRole a ha).imp fun _ => hg.findRole, hs.scenes ▸ h.sceneChars,
    hs.scenes ▸ fun s hs' => hg.sceneOk (h.scenes s hs'),
    by simpa only [StoryOk, ht, hs.story] using h.story, by simpa only [hs.repFrom, hs.repAct, hs.story] using h.rep⟩

theorem Inv.congr {mt : String → Act → Bool} {c c' : Cfg} (h : Inv mt c) (hs : SameHead c c')
    (hm : c'.members = c.members) : Inv mt c' :=
  ⟨h.head.congr hs, h.aud.congr hs.roles hs.actors hm⟩

theorem ritem_ok {r r' : Role} {it : RItem} (h : ritem r it = some r')
    (ha : (r.actions.map (·.1)).Nodup) (hs : (r.sigs.map (·.name)).Nodup) :
    (r'.actions.map (·.1)).Nodup ∧ (r'.sigs.map (·.name)).Nodup ∧ r'.name = r.name := by
  cases it with
  | action n cmd =>
    cases hn : r.actions.any (·.1 == n) with
    | true => simp [ritem, hn] at h
    | false =>
      obtain rfl : _ = r' := by simpa [ritem, hn] using h
      exact ⟨nodup_map_snoc ha ((any_key_false _ _ _).mp hn), hs, rfl⟩
  | spotlight cmd | cleanup cmd => cases h; exact ⟨ha, hs, rfl⟩
  | signal s =>
    cases hn : r.sigs.any (·.name == s.name) with
    | true => simp [ritem, hn] at h
    | false =>
      obtain rfl : _ = r' := by simpa [ritem, hn] using h
      exact ⟨ha, nodup_map_snoc hs ((any_key_false _ _ _).mp hn), rfl⟩

theorem ritems_ok : ∀ (items : List RItem) {r r' : Role}, ritems r items = some r' →
    (r.actions.map (·.1)).Nodup → (r.sigs.map (·.name)).Nodup →
    (r'.actions.map (·.1)).Nodup ∧ (r'.sigs.map (·.name)).Nodup ∧ r'.name = r.name
  | [], r, r', h, ha, hs => by cases h; exact ⟨ha, hs, rfl⟩
  | it :: items, r, r', h, ha, hs => by
    rw [ritems] at h
    cases h1 : ritem r it with
    | none => simp [h1] at h
    | some r1 =>
      obtain ⟨a1, s1, n1⟩ := ritem_ok h1 ha hs
      obtain ⟨a2, s2, n2⟩ := ritems_ok items (by simpa [h1] using h) a1 s1
      exact ⟨a2, s2, n2.trans n1⟩

theorem inv_stepRole {mt : String → Act → Bool} {c c' : Cfg} {name : String} {ext : Option String}
    {items : List RItem} (hinv : Inv mt c) (h : stepRole c name ext items = some c') : Inv mt c' := by
  unfold stepRole at h
  split at h
  · cases h
  · rename_i hnew
    cases hb : roleBase c name ext with
    | none => simp [hb] at h
    | some base =>
      cases hi : ritems base items with
      | none => simp [hb, hi] at h
      | some r =>
        simp only [hb, hi] at h
        split at h
        · cases h
        · rename_i hsp
          cases h
          -- the template is fine
          have hbase : (base.actions.map (·.1)).Nodup ∧ (base.sigs.map (·.name)).Nodup ∧ base.name = name := by
            cases ext with
            | none => cases hb; simp
            | some p =>
              unfold roleBase at hb
              cases hp : findRole c p with
              | none => simp [hp] at hb
              | some pr =>
                obtain rfl : _ = base := by simpa [hp] using hb
                obtain ⟨a, s, -⟩ := hinv.head.roles pr (findRole_mem hp).1
                exact ⟨a, s, rfl⟩
          obtain ⟨ra, rs, rn⟩ := ritems_ok items hi hbase.1 hbase.2.1
          have hrok : RoleOk r := ⟨ra, rs, fun hne hsp' => hsp (by simp [hsp', hne])⟩
          have hg : Grows c { c with roles := c.roles ++ [r] } := ⟨⟨[r], rfl⟩, ⟨[], by simp⟩⟩
          refine ⟨{ hinv.head with
            roleNames := nodup_map_snoc hinv.head.roleNames ?_, roles := ?_
            actorRole := fun a ha => (hinv.head.actorRole a ha).imp fun _ => hg.findRole
            scenes := fun s hs => hg.sceneOk (hinv.head.scenes s hs) }, hg.audInv rfl hinv.aud⟩
          · rw [rn, hbase.2.2]; exact (any_key_false _ _ _).mp (by simpa using hnew)
          · simpa [or_imp, forall_and, hrok] using hinv.head.roles

theorem inv_addActor {mt : String → Act → Bool} {c c' : Cfg} {a : Actor} (hinv : Inv mt c)
    (hr : ∃ r, findRole c a.role = some r) (h : addActor c a = some c') :
    Inv mt c' ∧ c'.roles = c.roles := by
  unfold addActor at h
  split at h
  · cases h
  · rename_i hnew
    cases h
    have hg : Grows c { c with actors := c.actors ++ [a] } := ⟨⟨[], by simp⟩, ⟨[a], rfl⟩⟩
    exact ⟨⟨{ hinv.head with
      actorNames := nodup_map_snoc hinv.head.actorNames ((any_key_false _ _ _).mp (by simpa using hnew))
      actorRole := fun x hx => (List.mem_append.mp hx).elim (hinv.head.actorRole x) fun h =>
        List.mem_singleton.mp h ▸ hr
      scenes := fun s hs => hg.sceneOk (hinv.head.scenes s hs) }, hg.audInv rfl hinv.aud⟩, rfl⟩

theorem inv_addMany {mt : String → Act → Bool} (base role env : String) : ∀ (k i : Nat) (c c' : Cfg),
    Inv mt c → (∃ r, findRole c role = some r) → addMany base role env i k c = some c' → Inv mt c'
  | 0, i, c, c', hinv, _, h => by cases h; exact hinv
  | k + 1, i, c, c', hinv, hr, h => by
    rw [addMany] at h
    split at h
    · rename_i c1 h1
      obtain ⟨hinv1, hroles⟩ := inv_addActor hinv hr h1
      exact inv_addMany base role env k (i + 1) c1 c' hinv1 (by simpa only [findRole, hroles] using hr) h
    · cases h

theorem inv_stepCast {mt : String → Act → Bool} {c c' : Cfg} {name : String} {mul : Option Nat}
    {role env : String} (hinv : Inv mt c) (h : stepCast c name mul role env = some c') : Inv mt c' := by
  unfold stepCast at h
  cases mul with
  | none =>
    cases hr : findRole c role with
    | none => simp [hr] at h
    | some r => exact (inv_addActor hinv ⟨r, (findRole_mem hr).2 ▸ hr⟩ (by simpa [hr] using h)).1
  | some n =>
    cases hr : (findRole c role).or (findRole c (singular role)) with
    | none => simp [hr] at h
    | some r =>
      have hmem : r ∈ c.roles := by
        rcases Option.or_eq_some_iff.mp hr with h1 | ⟨-, h1⟩ <;> exact (findRole_mem h1).1
      exact inv_addMany name r.name env n 0 c c' hinv ⟨r, findRole_of_mem hinv.head.roleNames hmem⟩
        (by simpa [hr] using h)

theorem mem_upsert {f : Scene → Scene} {ch : Char} {x : Scene} : ∀ {l : List Scene},
    x ∈ upsertScene f ch l → x ∈ l ∨ (∃ y ∈ l, y.ch = ch ∧ x = f y) ∨
      (ch ∉ l.map (·.ch) ∧ x = f (blankScene ch))
  | [], h => .inr (.inr ⟨by simp, by simpa [upsertScene, blankScene] using h⟩)
  | s :: l, h => by
    rw [upsertScene] at h
    split at h
    · rename_i hs
      rcases List.mem_cons.mp h with rfl | h
      · exact .inr (.inl ⟨s, List.mem_cons_self, hs, rfl⟩)
      · exact .inl (List.mem_cons_of_mem _ h)
    · rename_i hs
      rcases List.mem_cons.mp h with rfl | h
      · exact .inl List.mem_cons_self
      · rcases mem_upsert h with h1 | ⟨y, hy, hyc, rfl⟩ | ⟨h1, rfl⟩
        · exact .inl (List.mem_cons_of_mem _ h1)
        · exact .inr (.inl ⟨y, List.mem_cons_of_mem _ hy, hyc, rfl⟩)
        · exact .inr (.inr ⟨by simpa [Ne.symm hs] using h1, rfl⟩)

theorem chars_upsert {f : Scene → Scene} (hf : ∀ y, (f y).ch = y.ch) (ch : Char) : ∀ (l : List Scene),
    (upsertScene f ch l).map (·.ch) =
      if ch ∈ l.map (·.ch) then l.map (·.ch) else l.map (·.ch) ++ [ch]
  | [] => by simp [upsertScene, hf]
  | s :: l => by
    rw [upsertScene]
    split
    · rename_i hs; simp [hf, hs]
    · rename_i hs
      rw [List.map_cons, chars_upsert hf ch l]
      by_cases h : ch ∈ l.map (·.ch) <;> simp [h, Ne.symm hs]

theorem storyOk_mono {c c' : Cfg} (hs : c'.story = c.story)
    (hd : ∀ x, sceneDefined c x = true → sceneDefined c' x = true) (h : StoryOk c) : StoryOk c' := by
  refine ⟨hs ▸ Shk.Story.ValidStory.mono (fun ch hch => ?_) h.1, hs ▸ h.2⟩
  simp only [tblOf] at hch ⊢
  cases hx : sceneDefined c ch with
  | true => simp [hd ch hx]
  | false => simp [hx] at hch

theorem inv_upsert {mt : String → Act → Bool} {c : Cfg} (hinv : Inv mt c) (f : Scene → Scene) (ch : Char)
    (hf : ∀ y, (f y).ch = y.ch)
    (hok : ∀ y, y.ch = ch → (y ∈ c.scenes ∧ SceneOk c y ∨ y = blankScene ch) → SceneOk c (f y)) :
    Inv mt { c with scenes := upsertScene f ch c.scenes } := by
  have hchars := chars_upsert hf ch c.scenes
  refine ⟨{ hinv.head with sceneChars := ?_, scenes := fun x hx => ?_, story := ?_ },
    hinv.aud.congr rfl rfl rfl⟩
  · rw [hchars]
    split
    · exact hinv.head.sceneChars
    · exact nodup_snoc.mpr ⟨hinv.head.sceneChars, ‹_›⟩
  · rcases mem_upsert hx with h | ⟨y, hy, hyc, rfl⟩ | ⟨-, rfl⟩
    · exact hinv.head.scenes x h
    · exact hok y hyc (.inl ⟨hy, hinv.head.scenes y hy⟩)
    · exact hok _ rfl (.inr rfl)
  · refine storyOk_mono (c := c) rfl (fun x h => ?_) hinv.head.story
    have : x ∈ c.scenes.map (·.ch) := (any_key _ _ _).mp h
    exact (any_key _ _ _).mpr (by rw [hchars]; split <;> simp [this])

theorem selectActors_spec {c : Cfg} (hnd : (c.actors.map (·.name)).Nodup) {t : Target} {r : Role}
    {as : List Actor} (h : selectActors c t = some (r, as)) :
    ∀ x ∈ as, findActor c x.name = some x ∧ findRole c x.role = some r := by
  cases t with
  | every ro =>
    unfold selectActors at h
    cases hr : findRole c ro with
    | none => simp [hr] at h
    | some r0 =>
      obtain ⟨rfl, rfl⟩ : r0 = r ∧ _ = as := by simpa [hr] using h
      intro x hx
      obtain ⟨hx1, hx2⟩ := List.mem_filter.mp hx
      exact ⟨findActor_of_mem hnd hx1, (beq_iff_eq.mp hx2) ▸ hr⟩
  | actor n =>
    unfold selectActors at h
    cases ha : findActor c n with
    | none => simp [ha] at h
    | some a =>
      cases hr : findRole c a.role with
      | none => simp [ha, hr] at h
      | some r0 =>
        obtain ⟨rfl, rfl⟩ : r0 = r ∧ [a] = as := by simpa [ha, hr] using h
        intro x hx
        obtain rfl := List.mem_singleton.mp hx
        exact ⟨(findActor_mem ha).2 ▸ ha, hr⟩

theorem inv_entails {mt : String → Act → Bool} {c c' : Cfg} {ch : Char} {t : Target} {actions : List String}
    (hinv : Inv mt c) (h : step mt c (.entails ch t actions) = some c') : Inv mt c' := by
  simp only [step] at h
  split at h
  · cases h
  · rename_i hch
    split at h
    · cases h
    · cases h; exact hinv
    · rename_i r a as hs
      split at h
      · rename_i hact
        cases h
        have hspec := selectActors_spec hinv.head.actorNames hs
        refine inv_upsert hinv _ ch (fun y => rfl) fun y hy hmem => ?_
        refine ⟨by simpa [addEntails, hy] using hch, .inl (by simp [addEntails]), fun e he => ?_⟩
        simp only [addEntails, List.mem_append, List.mem_map] at he
        rcases he with he | ⟨_, ⟨x, hx, rfl⟩, rfl⟩
        · rcases hmem with ⟨-, hm⟩ | rfl
          · exact hm.2.2 e he
          · cases he
        · exact ⟨x, r, (hspec x hx).1, (hspec x hx).2, hact⟩
      · cases h

theorem inv_mood {mt : String → Act → Bool} {c c' : Cfg} {ch : Char} {starts : Bool} {m : String}
    (hinv : Inv mt c) (h : step mt c (.mood ch starts m) = some c') : Inv mt c' := by
  simp only [step] at h
  split at h
  · cases h
  · rename_i hc
    simp only [Bool.or_eq_true, Bool.not_eq_true', beq_iff_eq, not_or, Bool.not_eq_false] at hc
    cases h
    have hset : ∀ y, (setMood starts m y).ch = y.ch ∧ (setMood starts m y).entails = y.entails :=
      fun y => by unfold setMood; split <;> exact ⟨rfl, rfl⟩
    refine inv_upsert hinv _ ch (fun y => (hset y).1) fun y hy hmem => ?_
    refine ⟨by rw [(hset y).1, hy]; exact hc.1, by cases starts <;> simp [setMood, hc.2], ?_⟩
    rw [(hset y).2]
    rcases hmem with ⟨-, hm⟩ | rfl
    · exact hm.2.2
    · nofun

theorem validate_storyOk {c : Cfg} (hsc : ∀ s ∈ c.scenes, Shk.Story.isShort s.ch = true) {text : List Char}
    {acts : List Act} (h : Shk.Story.validate (sceneDefined c) text = .ok acts) :
    Shk.Story.ValidStory (tblOf c) acts ∧ ∀ a ∈ acts, a ≠ [] ∧ ∀ x ∈ a, Shk.Story.isPlain x = true := by
  rw [← defd_tblOf] at h
  have hv := Shk.Story.validate_valid h
  refine ⟨hv, fun a ha => ⟨?_, fun x hx => ?_⟩⟩
  · exact (Shk.Story.mem_writtenActs (((Shk.Story.validate_iff _ _ _).mp h).1 ▸ ha)).1
  · rcases ((hv a ha).2 x hx).2 with rfl | rfl | hd
    · decide
    · decide
    · apply isShort_plain
      have : sceneDefined c x = true := by
        cases hsd : sceneDefined c x <;> simp [tblOf, hsd] at hd ⊢
      obtain ⟨s, hs, rfl⟩ : ∃ s ∈ c.scenes, s.ch = x := by simpa [sceneDefined] using this
      exact hsc s hs

theorem inv_story {mt : String → Act → Bool} {c : Cfg} (hinv : Inv mt c) (st : List Act)
    (hst : Shk.Story.ValidStory (tblOf c) st ∧ ∀ a ∈ st, a ≠ [] ∧ ∀ x ∈ a, Shk.Story.isPlain x = true) :
    Inv mt (updateRepeat mt { c with story := st }) := by
  have heq : updateRepeat mt { c with story := st } =
      { c with story := st, repAct := (updateRepeat mt { c with story := st }).repAct } := by
    unfold updateRepeat
    cases c.repFrom <;> rfl
  rw [heq]
  exact ⟨{ hinv.head with
    story := hst, rep := fun re (hre : c.repFrom = some re) => by simp [updateRepeat, hre] },
    hinv.aud.congr rfl rfl rfl⟩

theorem inv_storyline {mt : String → Act → Bool} {c c' : Cfg} {text : List Char}
    (hinv : Inv mt c) (h : step mt c (.storyline text) = some c') : Inv mt c' := by
  simp only [step] at h
  cases hv : Shk.Story.validate (sceneDefined c) text with
  | error e => simp [hv] at h
  | ok acts =>
    obtain rfl : _ = c' := by simpa [hv] using h
    obtain ⟨h1, h2⟩ := validate_storyOk (fun s hs => (hinv.head.scenes s hs).1) hv
    refine inv_story hinv _ ⟨Shk.Story.combineStory_valid _ _ hinv.head.story.1 h1,
      combineStory_props (P := fun a => a ≠ [] ∧ ∀ x ∈ a, Shk.Story.isPlain x = true)
        (fun a b ha hb => ⟨?_, fun x hx => ?_⟩) _ _ hinv.head.story.2 h2⟩
    · cases a with
      | nil => exact absurd rfl ha.1
      | cons c a => exact comb_ne_nil c a b
    · rcases Shk.Story.mem_comb a b hx with h | h | rfl | rfl
      · exact ha.2 x h
      · exact hb.2 x h
      · decide
      · decide

theorem inv_edit {mt : String → Act → Bool} {c c' : Cfg} {f : List Char → List Char}
    (hinv : Inv mt c) (h : step mt c (.edit f) = some c') : Inv mt c' := by
  simp only [step] at h
  cases hv : Shk.Story.validate (sceneDefined c) (f (Shk.Story.joinSp c.story)) with
  | error e => simp [hv] at h
  | ok acts =>
    obtain rfl : _ = c' := by simpa [hv] using h
    exact inv_story hinv _ (validate_storyOk (fun s hs => (hinv.head.scenes s hs).1) hv)

theorem inv_repeatFrom {mt : String → Act → Bool} {c : Cfg} (re : String) (hinv : Inv mt c) :
    Inv mt (updateRepeat mt { c with repFrom := some re }) :=
  ⟨{ hinv.head with rep := fun _ h => by cases h; rfl }, hinv.aud.congr rfl rfl rfl⟩

end Shk.Printer
