import ShkModel.Lemmas.PrinterSched
/-! Lemmas for C10: the ranking of the printed clauses (`Ranked`) survives storing a member back
with more clauses. -/
namespace Shk.Printer

/-- gives a `measures` clause the label `y`: the clause keeps its rank when the label changes -/
def relabel (y : String) : AClause → AClause
  | .measures _ => .measures y
  | x => x

theorem relabel_facts (y : String) (x : AClause) :
    uses (relabel y x) = uses x ∧ isExpectsC (relabel y x) = isExpectsC x ∧
      (isExpectsC x = true ∨ (∃ e, exOf x = some e) → relabel y x = x) := by
  cases x <;> simp [relabel, uses, isExpectsC, exOf]

theorem relabel_canon {m : Member} {x : AClause} (h : x ∈ canon m) : relabel m.ylabel x = x := by
  rcases List.mem_append.mp h with h | h
  · exact (relabel_facts _ x).2.2 (.inr ((chain_exOf h).imp fun _ h => h.1))
  · rcases mem_freeOf.mp h with ⟨v, -, rfl⟩ | ⟨rfl, -⟩ | ⟨rfl, -⟩
    · cases v <;> rfl
    · rfl
    · rfl

/-- New clauses of member `n` come after everything there was, its `expects` clause last; a
`measures` clause keeps its place when its label changes (`q0` is the member as it was). -/
def bumpRank (rk : String → AClause → Nat) (n : String) (q0 : Member) (K : Nat) :
    String → AClause → Nat :=
  fun n' x => if n' = n then
      (if isExpectsC x = true then K + 1
       else if relabel q0.ylabel x ∈ canon q0 then rk n (relabel q0.ylabel x) else K)
    else rk n' x

theorem exists_bound (rk : String → AClause → Nat) (ms : List Member) :
    ∃ K, ∀ m ∈ ms, ∀ x ∈ canon m, rk m.name x < K := by
  have hone : ∀ (n : String) (l : List AClause), ∃ K, ∀ x ∈ l, rk n x < K := fun n l => by
    induction l with
    | nil => exact ⟨0, fun _ h => nomatch h⟩
    | cons y l ih =>
      obtain ⟨K, hK⟩ := ih
      refine ⟨max K (rk n y + 1), fun x hx => ?_⟩
      rcases List.mem_cons.mp hx with rfl | h
      · exact Nat.lt_of_lt_of_le (Nat.lt_add_one _) (Nat.le_max_right _ _)
      · exact Nat.lt_of_lt_of_le (hK x h) (Nat.le_max_left _ _)
  induction ms with
  | nil => exact ⟨0, fun _ h => nomatch h⟩
  | cons m ms ih =>
    obtain ⟨K1, h1⟩ := ih
    obtain ⟨K2, h2⟩ := hone m.name (canon m)
    refine ⟨max K1 K2, fun x hx y hy => ?_⟩
    rcases List.mem_cons.mp hx with rfl | h
    · exact Nat.lt_of_lt_of_le (h2 y hy) (Nat.le_max_right _ _)
    · exact Nat.lt_of_lt_of_le (h1 x h y hy) (Nat.le_max_left _ _)

theorem pairwise_of_length_le_one {α : Type} {R : α → α → Prop} : ∀ {l : List α}, l.length ≤ 1 → l.Pairwise R
  | [], _ => .nil
  | [_], _ => List.pairwise_singleton _ _

/-- `Pairwise R` becomes `Pairwise R'` when `q` is stored: pairs without `q` carry over (`hoo`), and `q` stands where the
member of its name stood, or last if there was none (`hbefore`, `hafter`) -/
theorem pairwise_put {R R' : Member → Member → Prop} {c : Cfg} {q : Member}
    (hnd : (c.members.map (·.name)).Nodup) (h : c.members.Pairwise R)
    (hoo : ∀ a ∈ c.members, ∀ b ∈ c.members, a.name ≠ q.name → b.name ≠ q.name → R a b → R' a b)
    (hbefore : ∀ a ∈ c.members, a.name ≠ q.name →
      (getMember c q.name ∈ c.members → R a (getMember c q.name)) → R' a q)
    (hafter : ∀ b ∈ c.members, b.name ≠ q.name → R (getMember c q.name) b → R' q b) :
    (putMember c q).members.Pairwise R' := by
  rcases put_cases c q with ⟨hnew, hg, hp⟩ | ⟨pre, old, post, h0, hon, hpre, hg, hp⟩
  · have hne : ∀ a ∈ c.members, a.name ≠ q.name := fun a ha e => hnew (e ▸ List.mem_map_of_mem ha)
    rw [hp, List.pairwise_append]
    refine ⟨h.imp_of_mem fun ha hb => hoo _ ha _ hb (hne _ ha) (hne _ hb), List.pairwise_singleton _ _,
      fun a ha b hb => List.mem_singleton.mp hb ▸ hbefore a ha (hne a ha) fun hq => ?_⟩
    exact (hne _ hq (getMember_name c q.name)).elim
  · have hpost := (nodup_map_mid (h0 ▸ hnd)).2
    rw [hon] at hpost
    rw [hg] at hbefore hafter
    rw [h0] at h hoo hbefore hafter
    rw [hp]
    obtain ⟨h1, h2, h3⟩ := List.pairwise_append.mp h
    obtain ⟨h21, h22⟩ := List.pairwise_cons.mp h2
    have mpre : ∀ {a}, a ∈ pre → a ∈ pre ++ old :: post := fun h => List.mem_append_left _ h
    have mpost : ∀ {a}, a ∈ post → a ∈ pre ++ old :: post := fun h => by simp [h]
    refine List.pairwise_append.mpr ⟨h1.imp_of_mem fun ha hb => hoo _ (mpre ha) _ (mpre hb) (hpre _ ha) (hpre _ hb),
      List.pairwise_cons.mpr ⟨fun b hb => hafter b (mpost hb) (hpost b hb) (h21 b hb),
        h22.imp_of_mem fun ha hb => hoo _ (mpost ha) _ (mpost hb) (hpost _ ha) (hpost _ hb)⟩,
      fun a ha b hb => ?_⟩
    rcases List.mem_cons.mp hb with rfl | hb
    · exact hbefore a (mpre ha) (hpre a ha) fun _ => h3 a ha old List.mem_cons_self
    · exact hoo a (mpre ha) b (mpost hb) (hpre a ha) (hpost b hb) (h3 a ha b (List.mem_cons_of_mem _ hb))

/-- storing `q1` keeps the clauses ranked, under `bumpRank`, when `q1` keeps the old clauses of its name up to the label
(`hold`), adds at most one to the head of its chain (`hhead`) and assigns only new variables more (`hass`, `hex`) -/
theorem ranked_put {c : Cfg} {rk : String → AClause → Nat} {K : Nat} {q1 : Member} {ex : List Assign}
    (hr : Ranked c.members rk) (hK : ∀ m ∈ c.members, ∀ x ∈ canon m, rk m.name x < K)
    (hnames : (c.members.map (·.name)).Nodup) (hne : ∀ m ∈ c.members, canon m ≠ [])
    (hm3 : ∀ m ∈ c.members, m.active = none → m.assigns = [] ∧ m.expects = none)
    (hold : ∀ x ∈ canon (getMember c q1.name), isExpectsC x = false →
      ∃ x' ∈ canon q1, relabel (getMember c q1.name).ylabel x' = x)
    (hhead : ∃ newC, chainHead q1 = chainHead (getMember c q1.name) ++ newC ∧ newC.length ≤ 1 ∧
      ∀ x ∈ newC, x ∉ canon (getMember c q1.name))
    (huses_old : ∀ m ∈ c.members, ∀ x ∈ canon m, ∀ v ∈ uses x, v ∈ definedVars c)
    (huses_new : ∀ x ∈ canon q1, relabel (getMember c q1.name).ylabel x ∉ canon (getMember c q1.name) →
      ∀ v ∈ uses x, v ∈ definedVars c)
    (hass : q1.assigns = (getMember c q1.name).assigns ++ ex) (hex : ∀ a ∈ ex, a.var ∉ definedVars c) :
    Ranked (putMember c q1).members (bumpRank rk q1.name (getMember c q1.name) K) := by
  generalize hq0 : getMember c q1.name = q0 at *
  generalize hR : bumpRank rk q1.name q0 K = R
  have hq0n : q0.name = q1.name := hq0 ▸ getMember_name c q1.name
  -- an old clause of the member comes from `c`
  have hq0m : ∀ {x}, x ∈ canon q0 → q0 ∈ c.members := fun hx => by
    rcases getMember_cases c q1.name with h | ⟨h, -⟩
    · exact hq0 ▸ h
    · rw [hq0] at h; rw [h] at hx; cases hx
  have hmem := fun x hx => mem_put hnames (q := q1) (x := x) hx
  have hother : ∀ {n'} (x : AClause), n' ≠ q1.name → R n' x = rk n' x := fun x h => by
    simp [← hR, bumpRank, h]
  -- the clauses of the member: new ones have rank `K` or `K + 1`, old ones at least their old rank
  have hcase : ∀ x, K ≤ R q1.name x ∨ (relabel q0.ylabel x ∈ canon q0 ∧ isExpectsC x = false ∧
      R q1.name x = rk q1.name (relabel q0.ylabel x)) := fun x => by
    by_cases h1 : isExpectsC x = true
    · simp [← hR, bumpRank, h1]
    · by_cases h2 : relabel q0.ylabel x ∈ canon q0 <;> simp [← hR, bumpRank, h1, h2]
  have hkeep : ∀ x ∈ canon q0, isExpectsC x = false → R q1.name x = rk q1.name x := fun x hx h => by
    simp [← hR, bumpRank, h, relabel_canon hx, hx]
  have hqK : ∀ x ∈ canon q0, rk q1.name x < K := fun x hx => hq0n ▸ hK q0 (hq0m hx) x hx
  have hge : ∀ x, relabel q0.ylabel x ∈ canon q0 → rk q1.name (relabel q0.ylabel x) ≤ R q1.name x :=
    fun x hx => by
      rcases hcase x with h | ⟨-, -, h⟩
      · have := hqK _ hx; omega
      · omega
  refine ⟨fun m hm x hx v hv m' hm' a ha hav => ?_, fun m hm => ?_, ?_⟩
  · -- a use: of a variable that `c` defines, by an old assignment
    have hvdef : v ∈ definedVars c := by
      rcases hmem m hm with rfl | ⟨h, -⟩
      · by_cases hx0 : relabel q0.ylabel x ∈ canon q0
        · exact huses_old q0 (hq0m hx0) _ hx0 v ((relabel_facts _ x).1 ▸ hv)
        · exact huses_new x hx hx0 v hv
      · exact huses_old m h x hx v hv
    obtain ⟨mo, hmo, hao, hdef⟩ : ∃ mo ∈ c.members, a ∈ mo.assigns ∧
        R m'.name (.assign a) = rk mo.name (.assign a) := by
      rcases hmem m' hm' with rfl | ⟨h, h2⟩
      · rcases List.mem_append.mp (hass ▸ ha) with h | h
        · have hc := List.mem_append_left (freeOf q0) (chainOf_mem_of_assign h)
          exact ⟨q0, hq0m hc, h, (hkeep _ hc rfl).trans (by rw [hq0n])⟩
        · exact absurd (hav ▸ hvdef) (hex a h)
      · exact ⟨m', h, ha, hother _ h2⟩
    have hdK := hK mo hmo _ (List.mem_append_left _ (chainOf_mem_of_assign hao))
    rw [hdef]
    rcases hmem m hm with rfl | ⟨h, h2⟩
    · by_cases hx0 : relabel q0.ylabel x ∈ canon q0
      · have := hr.uses q0 (hq0m hx0) _ hx0 v ((relabel_facts _ x).1 ▸ hv) mo hmo a hao hav
        have := hge x hx0
        rw [hq0n] at *; omega
      · rcases hcase x with h | ⟨h, -, -⟩
        · omega
        · exact absurd h hx0
    · rw [hother _ h2]; exact hr.uses m h x hx v hv mo hmo a hao hav
  · -- the chain of a member
    rcases hmem m hm with rfl | ⟨h, h2⟩
    · obtain ⟨newC, hh, hlen, hnewC⟩ := hhead
      have hA : (chainHead q0).Pairwise fun x y => rk m.name x < rk m.name y := by
        cases hA : chainHead q0 with
        | nil => exact .nil
        | cons y l =>
          have hy : y ∈ canon q0 := List.mem_append_left _ (mem_chainHead.mp (by simp [hA])).1
          have := hr.chain q0 (hq0m hy)
          rw [chainOf_eq, hA, hq0n] at this
          exact (List.pairwise_append.mp this).1
      have hAc : ∀ a ∈ chainHead q0, a ∈ canon q0 ∧ isExpectsC a = false := fun a ha =>
        ⟨List.mem_append_left _ (mem_chainHead.mp ha).1, (mem_chainHead.mp ha).2⟩
      have hN : ∀ b ∈ newC, R m.name b = K := fun b hb => by
        have hb1 : isExpectsC b = false := chainHead_noexp (hh ▸ List.mem_append_right _ hb)
        have : relabel q0.ylabel b = b := (relabel_facts _ b).2.2 (.inr
          ((chain_exOf (mem_chainHead.mp (hh ▸ List.mem_append_right _ hb : b ∈ chainHead m)).1).imp
            fun _ h => h.1))
        simp [← hR, bumpRank, hb1, this, hnewC b hb]
      have hT : ∀ b ∈ chainTail m, R m.name b = K + 1 := fun b hb => by
        simp [← hR, bumpRank, chainTail_exp hb]
      rw [chainOf_eq, hh, List.append_assoc]
      refine List.pairwise_append.mpr ⟨hA.imp_of_mem fun ha hb hab => ?_,
        List.pairwise_append.mpr ⟨pairwise_of_length_le_one hlen, ?_, fun a ha b hb => ?_⟩,
        fun a ha b hb => ?_⟩
      · rwa [hkeep _ (hAc _ ha).1 (hAc _ ha).2, hkeep _ (hAc _ hb).1 (hAc _ hb).2]
      · exact pairwise_of_length_le_one (chainTail_length m)
      · rw [hN a ha, hT b hb]; omega
      · have := hqK a (hAc a ha).1
        rw [hkeep _ (hAc _ ha).1 (hAc _ ha).2]
        rcases List.mem_append.mp hb with hb | hb
        · rw [hN b hb]; omega
        · rw [hT b hb]; omega
    · exact (hr.chain m h).imp fun hab => by rwa [hother _ h2, hother _ h2]
  · -- first mentions
    refine pairwise_put hnames hr.first (fun a _ b _ han hbn ⟨c0, hc0, hlt⟩ => ⟨c0, hc0, fun d hd => by
      rw [hother _ han, hother _ hbn]; exact hlt d hd⟩) (fun a ha han hprev => ?_) fun b hb hbn hw => ?_
    · rw [hq0] at hprev
      obtain ⟨c0, hc0, hlt⟩ : ∃ c0 ∈ canon a, q0 ∈ c.members → ∀ d ∈ canon q0, rk a.name c0 < rk q0.name d := by
        by_cases hq : q0 ∈ c.members
        · exact (hprev hq).imp fun _ h => ⟨h.1, fun _ => h.2⟩
        · exact (List.exists_mem_of_ne_nil _ (hne a ha)).imp fun _ h => ⟨h, fun h => absurd h hq⟩
      refine ⟨c0, hc0, fun d hd => ?_⟩
      have := hK a ha c0 hc0
      rw [hother _ han]
      rcases hcase d with h | ⟨h, -, -⟩
      · omega
      · have := hlt (hq0m h) _ h
        have := hge d h
        rw [hq0n] at *; omega
    · rw [hq0] at hw
      -- a witness that is not the `expects` clause: the first clause of the chain will do
      obtain ⟨c0, hc0, hne0, hlt⟩ : ∃ c0 ∈ canon q0, isExpectsC c0 = false ∧
          ∀ d ∈ canon b, rk q0.name c0 < rk b.name d := by
        obtain ⟨c0, hc0, hlt⟩ := hw
        by_cases he : isExpectsC c0 = true
        · have hq := hq0m hc0
          have hct : c0 ∈ chainTail q0 := by
            rcases List.mem_append.mp hc0 with h | h
            · exact (List.mem_append.mp (chainOf_eq q0 ▸ h)).resolve_left fun h => by
                simp [chainHead_noexp h] at he
            · simp [(free_facts h).2.2] at he
          cases hma : q0.active with
          | none => simp [chainTail, (hm3 q0 hq hma).2] at hct
          | some e0 =>
            have hpw := (List.pairwise_append.mp (chainOf_eq q0 ▸ hr.chain q0 hq)).2.2 (.audits e0)
              (by simp [chainHead, hma]) c0 hct
            exact ⟨.audits e0, List.mem_append_left _ (by simp [chainOf, hma]), rfl, fun d hd => by
              have := hlt d hd; omega⟩
        · exact ⟨c0, hc0, by simpa using he, hlt⟩
      obtain ⟨x', hx', hrel⟩ := hold c0 hc0 hne0
      refine ⟨x', hx', fun d hd => ?_⟩
      have hx'e : isExpectsC x' = false := by rw [← (relabel_facts q0.ylabel x').2.1, hrel, hne0]
      have : R q1.name x' = rk q1.name c0 := by simp [← hR, bumpRank, hx'e, hrel, hc0]
      rw [this, hother _ hbn, ← hq0n]
      exact hlt d hd

end Shk.Printer
