import ShkModel.Model.Template
import ShkModel.Lemmas.Regex
import ShkModel.Lemmas.Drop
/-! Lemmas for clause templates (C10): the matcher on a rendered line is deterministic (`ms_compile`), the captures
it writes cut the fields that were printed (`caps_are_fields`, `run_render`), and a regexp read as a template is that
template compiled (`templateOf_sound`).

The line is described from a position `p` on by what stands there (`s.drop p = …`).  A greedy
repetition of a one-character class then has one useful way, the whole run of class characters,
as soon as what follows fails after every shorter run (`starN_run`); every token of a template is
an instance.  For a `(\S+)` word the shorter runs are useless because what may follow a word
(`afterWord`: blanks or the end) fails where a non-blank stands (`rejects`). -/
namespace Shk.Tpl
open Shk.Re

theorem stepChar_some {s : List Char} {p : Nat} {x : Char} (h : s[p]? = some x) (P : Nat → Bool) (c : Caps) :
    stepChar s P ⟨p, c⟩ = if P x.toNat = true then [⟨p + 1, c⟩] else [] := by
  simp only [stepChar, h]

theorem stepChar_none {s : List Char} {p : Nat} (h : s[p]? = none) (P : Nat → Bool) (c : Caps) :
    stepChar s P ⟨p, c⟩ = [] := by
  simp only [stepChar, h]

theorem stepChar_stop {s : List Char} {p : Nat} {tail : List Char} {P : Nat → Bool} (hd : s.drop p = tail)
    (htail : ∀ ch ∈ tail.head?, P ch.toNat = false) (c : Caps) : stepChar s P ⟨p, c⟩ = [] := by
  cases tail with
  | nil => exact stepChar_none (getElem?_of_drop_nil hd) P c
  | cons ch t => rw [stepChar_some (getElem?_of_drop hd), htail ch rfl]; rfl

theorem starN_run {β : Type} (s : List Char) (P : Nat → Bool) (G : St → List β) (c : Caps) :
    ∀ (w tail : List Char) (p fuel : Nat),
      s.drop p = w ++ tail → (∀ x ∈ w, P x.toNat = true) →
      (∀ ch ∈ tail.head?, P ch.toNat = false) → w.length ≤ fuel →
      (∀ k, k < w.length → G ⟨p + k, c⟩ = []) →
      (starN (stepChar s P) true fuel ⟨p, c⟩).flatMap G = G ⟨p + w.length, c⟩ := by
  intro w
  induction w with
  | nil =>
    intro tail p fuel hd _ htail _ _
    cases fuel with
    | zero => simp [starN]
    | succ n => simp [starN, stepChar_stop hd htail c]
  | cons x w ih =>
    intro tail p fuel hd hall htail hfuel hG
    cases fuel with
    | zero => cases hfuel
    | succ n =>
      have hstep : stepChar s P ⟨p, c⟩ = [⟨p + 1, c⟩] := by
        rw [stepChar_some (getElem?_of_drop hd), if_pos (hall x List.mem_cons_self)]
      have hrec := ih tail (p + 1) n (drop_succ_of_drop hd) (fun y hy => hall y (List.mem_cons_of_mem _ hy))
        htail (Nat.le_of_succ_le_succ hfuel)
        (fun k hk => by rw [Nat.add_right_comm]; exact hG (k + 1) (Nat.succ_lt_succ hk))
      have h0 : G ⟨p, c⟩ = [] := hG 0 (Nat.succ_pos _)
      simp only [starN, if_true, hstep, List.filter_cons, List.filter_nil, Nat.lt_succ_self, decide_true,
        List.flatMap_cons, List.flatMap_nil, List.append_nil, List.flatMap_append, h0, hrec, List.length_cons]
      rw [Nat.add_right_comm, Nat.add_assoc]

theorem star_run {β : Type} {s : List Char} {a : Re} {P : Nat → Bool} (ha : ∀ st, ms s a st = stepChar s P st)
    (G : St → List β) {c : Caps} {p : Nat} {w tail : List Char} (hd : s.drop p = w ++ tail)
    (hall : ∀ x ∈ w, P x.toNat = true) (htail : ∀ ch ∈ tail.head?, P ch.toNat = false)
    (hG : ∀ k, k < w.length → G ⟨p + k, c⟩ = []) :
    (ms s (.star true a) ⟨p, c⟩).flatMap G = G ⟨p + w.length, c⟩ := by
  have hfuel : w.length ≤ s.length - p := by
    rw [← List.length_drop, hd, List.length_append]; exact Nat.le_add_right _ _
  rw [← starN_run s P G c w tail p _ hd hall htail hfuel hG, ← funext ha]
  rfl

theorem plus_run {β : Type} {s : List Char} {a : Re} {P : Nat → Bool} (ha : ∀ st, ms s a st = stepChar s P st)
    (G : St → List β) {c : Caps} {p : Nat} {w tail : List Char} (hd : s.drop p = w ++ tail) (hne : w ≠ [])
    (hall : ∀ x ∈ w, P x.toNat = true) (htail : ∀ ch ∈ tail.head?, P ch.toNat = false)
    (hG : ∀ k, 0 < k → k < w.length → G ⟨p + k, c⟩ = []) :
    (ms s (.plus true a) ⟨p, c⟩).flatMap G = G ⟨p + w.length, c⟩ := by
  cases w with
  | nil => exact absurd rfl hne
  | cons x w =>
    have h1 : ms s (.plus true a) ⟨p, c⟩ = ms s (.star true a) ⟨p + 1, c⟩ := by
      show (ms s a ⟨p, c⟩).flatMap (ms s (.star true a)) = _
      rw [ha, stepChar_some (getElem?_of_drop hd), if_pos (hall x List.mem_cons_self)]
      exact List.flatMap_singleton ..
    rw [h1, star_run ha G (drop_succ_of_drop hd) (fun y hy => hall y (List.mem_cons_of_mem _ hy)) htail
      (fun k hk => by rw [Nat.add_right_comm]; exact hG (k + 1) (Nat.succ_pos _) (Nat.succ_lt_succ hk)),
      List.length_cons, Nat.add_right_comm, Nat.add_assoc]

theorem plus_stop {s : List Char} {g : Bool} {a : Re} {P : Nat → Bool} (ha : ∀ st, ms s a st = stepChar s P st)
    {c : Caps} {p : Nat} {tail : List Char} (hd : s.drop p = tail) (htail : ∀ ch ∈ tail.head?, P ch.toNat = false) :
    ms s (.plus g a) ⟨p, c⟩ = [] := by
  show (ms s a ⟨p, c⟩).flatMap _ = []
  rw [ha, stepChar_stop hd htail]; rfl

theorem ms_cat_group (s : List Char) (i : Nat) (nm : Option String) (a K : Re) (st : St) :
    ms s (.cat (.group i nm a) K) st
      = (ms s a st).flatMap fun t => ms s K { t with caps := (i, (st.pos, t.pos)) :: t.caps } :=
  List.flatMap_map ..

theorem ms_cls (s : List Char) (rs : List (Nat × Nat)) (st : St) : ms s (.cls rs) st = stepChar s (inRanges rs) st := rfl

theorem ms_strThen (s : List Char) (K : Re) (c : Caps) : ∀ (w tail : List Char) (p : Nat),
    s.drop p = w ++ tail → ms s (Re.strThen (w.map Char.toNat) K) ⟨p, c⟩ = ms s K ⟨p + w.length, c⟩ := by
  intro w
  induction w with
  | nil => intro tail p _; rfl
  | cons x w ih =>
    intro tail p hd
    show (stepChar s (fun m => m == x.toNat) ⟨p, c⟩).flatMap _ = _
    rw [stepChar_some (getElem?_of_drop hd), if_pos (beq_self_eq_true _), List.flatMap_singleton,
      ih tail (p + 1) (drop_succ_of_drop hd), List.length_cons, Nat.add_right_comm, Nat.add_assoc]

theorem isNS_not_isWS (ch : Char) (h : isNS ch = true) : isWS ch = false := by
  unfold isWS isNS inRanges WS NS at *
  simp only [List.any_cons, List.any_nil, Bool.or_false, Bool.or_eq_true, Bool.and_eq_true,
    decide_eq_true_eq] at h
  simp only [List.any_cons, List.any_nil, Bool.or_false, Bool.or_eq_false_iff, Bool.and_eq_false_iff,
    decide_eq_false_iff_not]
  omega

theorem dg_sub_ns (n : Nat) (h : inRanges DG n = true) : inRanges NS n = true := by
  unfold inRanges DG NS at *
  simp only [List.any_cons, List.any_nil, Bool.or_false, Bool.or_eq_true, Bool.and_eq_true, decide_eq_true_eq] at h ⊢
  omega

theorem not_ws_of_headNotWS {l : List Char} (h : headNotWS l = true) : ∀ ch ∈ l.head?, inRanges WS ch.toNat = false := by
  cases l with
  | nil => nofun
  | cons x t => rintro _ ⟨⟩; simpa [headNotWS, isWS] using h

theorem rejects (s : List Char) : ∀ (T : List Tok) (f : Fin), afterWord T f = true →
    ∀ (p : Nat) (c : Caps) (ch : Char), s[p]? = some ch → isNS ch = true → ms s (compile T f) ⟨p, c⟩ = [] := by
  intro T f haw p c ch hch hns
  have hstep : stepChar s (inRanges WS) ⟨p, c⟩ = [] := by
    rw [stepChar_some hch, if_neg (by rw [show inRanges WS ch.toNat = false from isNS_not_isWS ch hns]; nofun)]
  have hend : ms s .eot ⟨p, c⟩ = [] :=
    if_neg (Nat.ne_of_lt (List.getElem?_eq_some_iff.mp hch).1)
  revert haw
  fun_cases afterWord T f <;> intro haw
  · exact hend
  · show (starN (stepChar s (inRanges WS)) true (s.length - p) ⟨p, c⟩).flatMap (ms s .eot) = []
    cases s.length - p <;> simp [starN, hstep, hend]
  · show ((stepChar s (inRanges WS) ⟨p, c⟩).flatMap _).flatMap _ = []
    rw [hstep]; rfl
  · cases haw

theorem tail_after_word (T : List Tok) (f : Fin) (ws : List (List Char)) (r : List Char)
    (haw : afterWord T f = true) : ∀ ch ∈ (render T f ws r).head?, isNS ch = false := by
  revert haw
  fun_cases afterWord T f <;> intro haw
  · nofun
  · nofun
  · rintro _ ⟨⟩; decide
  · cases haw

theorem ms_clsword (s : List Char) (rs : List (Nat × Nat)) (hsub : ∀ n, inRanges rs n = true → inRanges NS n = true)
    (T : List Tok) (f : Fin) (i : Nat) (nm : Option String) (c : Caps) (p : Nat)
    (w tail : List Char) (hd : s.drop p = w ++ tail) (hne : w ≠ [])
    (hall : ∀ y ∈ w, inRanges rs y.toNat = true) (htail : ∀ ch ∈ tail.head?, isNS ch = false)
    (haw : afterWord T f = true) :
    ms s (.cat (.group i nm (.plus true (.cls rs))) (compile T f)) ⟨p, c⟩
      = ms s (compile T f) ⟨p + w.length, (i, (p, p + w.length)) :: c⟩ := by
  rw [ms_cat_group]
  exact plus_run (fun _ => rfl) _ hd hne hall
    (fun ch hch => Bool.eq_false_iff.mpr fun h => Bool.false_ne_true ((htail ch hch).symm.trans (hsub _ h))) fun k _ hk =>
    rejects s T f haw _ _ w[k] (getElem?_of_drop_append hd hk) (hsub _ (hall _ (List.getElem_mem hk)))

theorem ms_eot_end {s : List Char} {p : Nat} (h : p = s.length) (c : Caps) : ms s .eot ⟨p, c⟩ = [⟨s.length, c⟩] :=
  (if_pos h).trans (by rw [h])

theorem ms_rest (s : List Char) (i : Nat) (nm : Option String) (c : Caps) (p : Nat) (r : List Char)
    (hd : s.drop p = r) (hp : p ≤ s.length) :
    ms s (.cat (.group i nm (.star true .any)) .eot) ⟨p, c⟩ = [⟨s.length, (i, (p, p + r.length)) :: c⟩] := by
  have hlen := length_of_drop hd hp
  rw [ms_cat_group, star_run (P := fun _ => true) (fun _ => rfl) _ (w := r) (tail := []) (by rw [hd, List.append_nil])
    (fun _ _ => rfl) nofun fun k hk => if_neg (by show p + k ≠ s.length; omega)]
  exact (ms_eot_end hlen.symm _).trans (by rw [hlen])

theorem ms_compile (s : List Char) : ∀ (T : List Tok) (f : Fin) (words : List (List Char)) (r : List Char)
    (p : Nat) (c : Caps), Ok T f words r = true → s.drop p = render T f words r → p ≤ s.length →
    ms s (compile T f) ⟨p, c⟩ = [⟨s.length, capsOf T f words r p ++ c⟩] := by
  intro T f words r
  fun_induction Ok T f words r with
  | case1 f ws r =>
    intro p c _ hd hp
    cases f with
    | rest i nm => exact ms_rest s i nm c p r hd hp
    | eot =>
      exact ms_eot_end (length_of_drop hd hp).symm c
    | wsEot =>
      show (ms s (.star true (.cls WS)) ⟨p, c⟩).flatMap (ms s .eot) = [⟨s.length, c⟩]
      rw [star_run (fun _ => rfl) _ (w := []) (tail := []) hd nofun nofun nofun]
      exact ms_eot_end (length_of_drop hd hp).symm c
  | case2 w T f ws r ih =>
    intro p c hok hd hp
    exact (ms_strThen s _ c w _ p hd).trans (ih _ c hok (drop_add_of_drop hd) (add_length_le_of_drop hd hp))
  | case3 T f ws r ih =>
    intro p c hok hd hp
    have hok := Bool.and_eq_true_iff.mp hok
    show (ms s (.plus true (.cls WS)) ⟨p, c⟩).flatMap (ms s (compile T f)) = _
    rw [plus_run (fun _ => rfl) _ (w := [' ']) hd nofun (List.forall_mem_singleton.mpr (by decide)) (not_ws_of_headNotWS hok.1)
      fun k h0 hk => absurd h0 (Nat.not_lt.mpr (Nat.le_of_lt_succ hk))]
    exact ih _ c hok.2 (drop_succ_of_drop hd) (add_length_le_of_drop (w := [' ']) hd hp)
  | case4 i nm T f w ws r ih =>
    intro p c hok hd hp
    simp only [Bool.and_eq_true, Bool.not_eq_true', List.isEmpty_eq_false_iff, List.all_eq_true] at hok
    obtain ⟨⟨⟨hne, hall⟩, haw⟩, hok⟩ := hok
    show ms s (.cat (.group i nm (.plus true (.cls NS))) (compile T f)) ⟨p, c⟩ = _
    rw [ms_clsword s NS (fun _ h => h) T f i nm c p w _ hd hne hall (tail_after_word T f ws r haw) haw,
      ih _ _ hok (drop_add_of_drop hd) (add_length_le_of_drop hd hp)]
    exact congrArg (fun l => [St.mk s.length l]) (List.append_assoc _ [_] c).symm
  | case6 i nm T f w ws r ih =>
    intro p c hok hd hp
    simp only [Bool.and_eq_true, Bool.not_eq_true', List.isEmpty_eq_false_iff, List.all_eq_true] at hok
    obtain ⟨⟨⟨hne, hall⟩, haw⟩, hok⟩ := hok
    show ms s (.cat (.group i nm (.plus true (.cls DG))) (compile T f)) ⟨p, c⟩ = _
    rw [ms_clsword s DG dg_sub_ns T f i nm c p w _ hd hne hall (tail_after_word T f ws r haw) haw,
      ih _ _ hok (drop_add_of_drop hd) (add_length_le_of_drop hd hp)]
    exact congrArg (fun l => [St.mk s.length l]) (List.append_assoc _ [_] c).symm
  | case5 | case7 => nofun

theorem capsOf_keys : ∀ (T : List Tok) (f : Fin) (words : List (List Char)) (r : List Char) (p : Nat),
    Ok T f words r = true → (capsOf T f words r p).map (·.1) = groupsOf T f := by
  intro T f words r
  fun_induction Ok T f words r with
  | case1 f ws r => intro p _; cases f <;> rfl
  | case2 w T f ws r ih => intro p hok; exact ih _ hok
  | case3 T f ws r ih => intro p hok; exact ih _ (Bool.and_eq_true_iff.mp hok).2
  | case4 i nm T f w ws r ih | case6 i nm T f w ws r ih =>
    intro p hok
    simp only [capsOf, groupsOf, List.map_append, ih _ (Bool.and_eq_true_iff.mp hok).2]; rfl
  | case5 | case7 => nofun

theorem slice_prefix {s : List Char} {p : Nat} {w t : List Char} (h : s.drop p = w ++ t) :
    slice s p (p + w.length) = w := by
  unfold slice; rw [h, Nat.add_sub_cancel_left, List.take_left]

theorem caps_are_fields (s : List Char) : ∀ (T : List Tok) (f : Fin) (words : List (List Char)) (r : List Char)
    (p : Nat), Ok T f words r = true → s.drop p = render T f words r →
    (capsOf T f words r p).map (fun e => (e.1, slice s e.2.1 e.2.2)) = fieldsOf T f words r := by
  intro T f words r
  fun_induction Ok T f words r with
  | case1 f ws r =>
    intro p _ hd
    cases f with
    | rest i nm =>
      exact congrArg (fun x => [(i, x)]) (slice_prefix (t := []) (hd.trans (List.append_nil _).symm))
    | eot | wsEot => rfl
  | case2 w T f ws r ih => intro p hok hd; exact ih _ hok (drop_add_of_drop hd)
  | case3 T f ws r ih => intro p hok hd; exact ih _ (Bool.and_eq_true_iff.mp hok).2 (drop_succ_of_drop hd)
  | case4 i nm T f w ws r ih | case6 i nm T f w ws r ih =>
    intro p hok hd
    simp only [capsOf, fieldsOf, List.map_append, List.map_cons, List.map_nil, slice_prefix hd,
      ih _ (Bool.and_eq_true_iff.mp hok).2 (drop_add_of_drop hd)]
  | case5 | case7 => nofun

theorem fieldsOf_keys : ∀ (T : List Tok) (f : Fin) (words : List (List Char)) (r : List Char),
    Ok T f words r = true → (fieldsOf T f words r).map (·.1) = groupsOf T f := by
  intro T f words r hok
  rw [← caps_are_fields (render T f words r) T f words r 0 hok rfl, List.map_map]
  exact capsOf_keys T f words r 0 hok

theorem lookup_of_mem_nodup {k : Nat} {v : Nat × Nat} : ∀ {l : Caps}, (l.map (·.1)).Nodup → (k, v) ∈ l →
    l.lookup k = some v := by
  intro l
  induction l with
  | nil => nofun
  | cons e l ih =>
    intro hnd hm
    have hnd := List.nodup_cons.mp hnd
    rcases List.mem_cons.mp hm with rfl | hm
    · exact List.lookup_cons_self
    · have hne : (k == e.1) = false := beq_eq_false_iff_ne.mpr fun h =>
        hnd.1 (List.mem_map.mpr ⟨(k, v), hm, h⟩)
      rw [List.lookup_cons, hne]
      exact ih hnd.2 hm

theorem ngroups_strThen (w : List Nat) (K : Re) : ngroups (Re.strThen w K) = ngroups K := by
  induction w with
  | nil => rfl
  | cons c w ih => exact (Nat.zero_max _).trans ih

theorem group_le_ngroups (T : List Tok) (f : Fin) : ∀ (i : Nat), i ∈ groupsOf T f → i ≤ ngroups (compile T f) := by
  fun_induction groupsOf T f with
  | case1 j nm =>
    intro i h
    rw [List.mem_singleton.mp h]
    exact Nat.le_trans (Nat.le_max_left _ _) (Nat.le_max_left (max j _) _)
  | case2 => nofun
  | case3 w T f ih => intro i h; exact Nat.le_trans (ih i h) (Nat.le_of_eq (ngroups_strThen _ _).symm)
  | case4 T f ih => intro i h; exact Nat.le_trans (ih i h) (Nat.le_max_right _ _)
  | case5 j nm T f ih | case6 j nm T f ih =>
    intro i h
    rcases List.mem_append.mp h with h | h
    · exact Nat.le_trans (ih i h) (Nat.le_max_right _ _)
    · rw [List.mem_singleton.mp h]
      exact Nat.le_trans (Nat.le_max_left _ _) (Nat.le_max_left (max j _) _)

theorem run_render (T : List Tok) (f : Fin) (words : List (List Char)) (r : List Char)
    (hok : Ok T f words r = true) :
    run (re T f) (render T f words r)
      = some (spans (ngroups (re T f)) 0 ⟨(render T f words r).length, capsOf T f words r 0⟩) := by
  have h := ms_compile (render T f words r) T f words r 0 [] hok rfl (Nat.zero_le _)
  simp only [run, re, ms, if_true, List.flatMap_cons, List.flatMap_nil, List.append_nil, h]
  simp

theorem compile_consLit (c : Char) (p : List Tok × Fin) :
    compile (consLit c p).1 (consLit c p).2 = .cat (.chr c.toNat) (compile p.1 p.2) := by
  fun_cases consLit c p <;> rfl

theorem decompile_sound (r : Re) : ∀ (T : List Tok) (f : Fin), decompile r = some (T, f) → r = compile T f := by
  fun_induction decompile r with
  | case1 | case2 | case3 => rintro T f ⟨⟩; rfl
  | case5 K ih | case7 i nm K ih | case8 i nm K _ ih =>
    intro T f h
    obtain ⟨⟨T', f'⟩, hp, ⟨⟩⟩ := Option.map_eq_some_iff.mp h
    rw [ih T' f' hp]; rfl
  | case10 c K hc ih =>
    intro T f h
    obtain ⟨p, hp, heq⟩ := Option.map_eq_some_iff.mp h
    have := compile_consLit (Char.ofNat c) p
    rw [heq, hc, ← ih p.1 p.2 hp] at this
    exact this.symm
  | case4 | case6 | case9 | case11 | case12 => nofun

theorem templateOf_sound (r : Re) (T : List Tok) (f : Fin) (h : templateOf r = some (T, f)) : r = re T f := by
  revert h
  fun_cases templateOf r <;> intro h
  · rw [decompile_sound _ T f h]; rfl
  · cases h

end Shk.Tpl
