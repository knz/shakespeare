import ShkModel.Model.FuncSpec
/-!
# Insertion sorts (C11: `sorted`, `top` / `bottom N`, `med`): one insertion behind the four of the model;
sortedness, permutation, uniqueness
-/
namespace Shk.Sort
open Shk Shk.FuncSpec

/-- insertion behind the leading elements `y` with `r y x`.  `insertAsc` and `insertSc` of the model have this
shape, `insertDesc` and `insertAscSc` have it on arrays of numbers; they differ in `r` only. -/
def insertBy {α : Type} (r : α → α → Bool) (x : α) : List α → List α
  | [] => [x]
  | y :: ys => if r y x then y :: insertBy r x ys else x :: y :: ys

theorem insertBy_perm {α : Type} (r : α → α → Bool) (x : α) (l : List α) :
    (insertBy r x l).Perm (x :: l) := by
  induction l with
  | nil => exact .refl _
  | cons y ys ih =>
    simp only [insertBy]; split
    · exact (ih.cons y).trans (.swap x y ys)
    · exact .refl _

theorem take_insertBy_take {α : Type} (r : α → α → Bool) (x : α) (n : Nat) (l : List α) :
    (insertBy r x (l.take n)).take n = (insertBy r x l).take n := by
  induction l generalizing n with
  | nil => simp
  | cons y ys ih =>
    cases n with
    | zero => simp
    | succ n =>
      simp only [List.take_succ_cons, insertBy]; split
      · simp [ih]
      · cases n <;> simp [List.take_take]

/-- `r` decides the total order `R`, whichever way it answers on ties -/
structure Decides {α : Type} (R : α → α → Prop) (r : α → α → Bool) : Prop where
  trans : ∀ {a b c}, R a b → R b c → R a c
  antisymm : ∀ {a b}, R a b → R b a → a = b
  of_true : ∀ {a b}, r a b = true → R a b
  of_false : ∀ {a b}, r a b = false → R b a

namespace Decides
variable {α : Type} {R : α → α → Prop} {r : α → α → Bool}

theorem insertBy_sorted (ho : Decides R r) (x : α) {l : List α} (h : l.Pairwise R) :
    (insertBy r x l).Pairwise R := by
  induction l with
  | nil => simp [insertBy]
  | cons y ys ih =>
    simp only [insertBy]; split
    · rename_i hyx
      refine .cons (fun a ha => ?_) (ih h.tail)
      rcases List.mem_cons.1 ((insertBy_perm r x ys).mem_iff.1 ha) with rfl | ha
      · exact ho.of_true hyx
      · exact List.rel_of_pairwise_cons h ha
    · rename_i hyx
      have hxy : R x y := ho.of_false (by simpa using hyx)
      refine .cons (fun a ha => ?_) h
      rcases List.mem_cons.1 ha with rfl | ha
      · exact hxy
      · exact ho.trans hxy (List.rel_of_pairwise_cons h ha)

theorem unique (ho : Decides R r) {a b : List α} (ha : a.Pairwise R) (hb : b.Pairwise R)
    (h : a.Perm b) : a = b :=
  h.eq_of_pairwise (fun _ _ _ _ => ho.antisymm) ha hb

theorem insertBy_sort (ho : Decides R r) {srt : List α → List α} (hs : ∀ l, (srt l).Pairwise R)
    (hp : ∀ l, (srt l).Perm l) (x : α) (l : List α) : insertBy r x (srt l) = srt (l ++ [x]) :=
  ho.unique (ho.insertBy_sorted x (hs l)) (hs _)
    ((insertBy_perm r x _).trans (((hp l).cons x).trans
      ((List.perm_append_singleton x l).symm.trans (hp _).symm)))

end Decides

theorem le_of_not_le {x y : Rat} (h : ¬ x ≤ y) : y ≤ x := Rat.le_of_lt (Rat.not_le.1 h)

theorem decides_le_strict : Decides (· ≤ ·) fun y x : Rat => !decide (x ≤ y) :=
  ⟨Rat.le_trans, Rat.le_antisymm, fun h => le_of_not_le (by simpa using h), fun h => by simpa using h⟩

theorem decides_le : Decides (· ≤ ·) fun y x : Rat => decide (y ≤ x) :=
  ⟨Rat.le_trans, Rat.le_antisymm, fun h => by simpa using h, fun h => le_of_not_le (by simpa using h)⟩

theorem decides_ge : Decides (· ≥ ·) fun y x : Rat => decide (y ≥ x) :=
  ⟨fun h1 h2 => Rat.le_trans h2 h1, fun h1 h2 => Rat.le_antisymm h2 h1, fun h => by simpa using h,
    fun h => le_of_not_le (by simpa using h)⟩

theorem insertAsc_eq (x : Rat) (l : List Rat) :
    insertAsc x l = insertBy (fun y x => !decide (x ≤ y)) x l := by
  induction l with
  | nil => rfl
  | cons y ys ih => by_cases h : x ≤ y <;> simp [insertAsc, insertBy, h, ih]

theorem insertSc_eq (x : Sc) (l : List Sc) : insertSc x l = insertBy scLess x l := by
  induction l with
  | nil => rfl
  | cons y ys ih => simp only [insertSc, insertBy, ih]

theorem insertDesc_map (x : Rat) (l : List Rat) :
    insertDesc x (l.map Sc.num) = (insertBy (fun y x => decide (y ≥ x)) x l).map Sc.num := by
  induction l with
  | nil => rfl
  | cons y ys ih => by_cases h : y ≥ x <;> simp [insertDesc, insertBy, h, ih]

theorem insertAscSc_map (x : Rat) (l : List Rat) :
    insertAscSc x (l.map Sc.num) = (insertBy (fun y x => decide (y ≤ x)) x l).map Sc.num := by
  induction l with
  | nil => rfl
  | cons y ys ih => by_cases h : y ≤ x <;> simp [insertAscSc, insertBy, h, ih]

theorem sortAsc_cons (x : Rat) (l : List Rat) : sortAsc (x :: l) = insertAsc x (sortAsc l) := rfl

theorem sortAsc_perm (l : List Rat) : (sortAsc l).Perm l := by
  induction l with
  | nil => exact .refl _
  | cons x xs ih => rw [sortAsc_cons, insertAsc_eq]; exact (insertBy_perm _ x _).trans (ih.cons x)

theorem sortAsc_sorted (l : List Rat) : (sortAsc l).Pairwise (· ≤ ·) := by
  induction l with
  | nil => exact .nil
  | cons x xs ih => rw [sortAsc_cons, insertAsc_eq]; exact decides_le_strict.insertBy_sorted x ih

theorem sortAsc_eq_of_perm {a b : List Rat} (h : a.Perm b) : sortAsc a = sortAsc b :=
  decides_le.unique (sortAsc_sorted a) (sortAsc_sorted b)
    ((sortAsc_perm a).trans (h.trans (sortAsc_perm b).symm))

theorem sortAsc_eq_self {a : List Rat} (h : a.Pairwise (· ≤ ·)) : sortAsc a = a :=
  decides_le.unique (sortAsc_sorted a) h (sortAsc_perm a)

theorem sortDesc_perm (l : List Rat) : (sortDesc l).Perm l :=
  (List.reverse_perm _).trans (sortAsc_perm l)

theorem sortDesc_sorted (l : List Rat) : (sortDesc l).Pairwise (· ≥ ·) := by
  unfold sortDesc; rw [List.pairwise_reverse]; exact sortAsc_sorted l

/-- the first `n` of a sort described without the sort (`collect_top_char`, `collect_bottom_char` of C11) -/
theorem sorted_take_char {α : Type} {R : α → α → Prop} {srt : List α → List α}
    (hs : ∀ l, (srt l).Pairwise R) (hp : ∀ l, (srt l).Perm l) (n : Nat) (l : List α) :
    ((srt l).take n).Pairwise R ∧ ((srt l).take n ++ (srt l).drop n).Perm l ∧
      ((srt l).take n).length = min n l.length ∧ ∀ a ∈ (srt l).take n, ∀ b ∈ (srt l).drop n, R a b := by
  have h := List.pairwise_append.1 (show ((srt l).take n ++ (srt l).drop n).Pairwise R by
    rw [List.take_append_drop]; exact hs l)
  exact ⟨h.1, by rw [List.take_append_drop]; exact hp l, by rw [List.length_take, (hp l).length_eq], h.2.2⟩

end Shk.Sort
