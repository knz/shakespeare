import ShkModel.Lemmas.ReaderRun
import ShkModel.Model.EditCmd
/-! # C09 — any configuration text is accepted or rejected with a truthful diagnostic (partial)

Model: `ShkModel/Model/Reader.lean` — the include-stack reader of `pkg/cmd/reader.go`
(`readLine`, `newSubReader`, `pos.wrapErr`) and the loop of `parseCfg`/`parseSection` around it,
over an arbitrary file system `fs : Name → Entry` (so every include graph, cyclic or not), an
arbitrary search path, an arbitrary clause parser `P` (`classify` accepts / rejects / aborts a
clause and owns the parameter table used for include names) and arbitrary parser state.
The theorems are about the code as repaired by 90845f9 (`old = false`); the behaviour before the
repair is `…Old`, with kernel-evaluated witnesses at the end.

What is NOT covered by these theorems: the regexp-driven clause parsers and govaluate (they are
the parameter `P`); crash-freedom of those is generated testing (vlib/c09.py). -/
namespace Shk.C09
open Shk.Reader Shk.Preproc

variable {σ : Type}

/-- `run`/`load` are defined by recursion on an explicit fuel (the number
of `readLine` calls).  For every file system in which no file has more than `L` complete lines,
every include graph (cyclic or not), every search path, every clause parser and every parser
state, `bound L = (L+2)·w₉ + 1` calls (with `w₀ = 1`, `wₖ₊₁ = 1 + (L+2)·wₖ`: at most ten nested
frames, each serving at most `L+2` calls) are enough: the load does not end in `running`.  The
proof is a potential argument (`phi`: every remaining call of a frame weighs a whole included file
of the levels above it; every call of `readLine` lowers it). -/
theorem reader_terminates (P : Parser σ) (fs : FS) (ipath : List Name) (L : Nat) (hs : Small L fs)
    (main : Name) (s : σ) (n : Nat) (hn : bound L ≤ n) :
    load P fs ipath main n s ≠ .running := by
  show loadG false P fs ipath main n s ≠ .running
  unfold loadG
  cases h : search false fs main ipath with
  | hit cand b t bad =>
    obtain ⟨_, _, _, _, _, _, hf⟩ := search_hit _ h
    apply run_finishes P fs ipath L hs n _ s (load_inv h)
    have := Nat.mul_le_mul_right (weight L 9) (rem_new hs hf)
    simp only [phi, List.length_nil, Nat.sub_zero, Nat.add_zero]
    unfold bound at hn
    omega
  | notFound | openErr c | isDir c => nofun

/-- more fuel does not change a finished outcome -/
theorem fuel_mono (P : Parser σ) (fs : FS) (ipath : List Name) :
    ∀ (n m : Nat) (st : List Frame) (s : σ), run P fs ipath n st s ≠ .running →
      run P fs ipath (n + m) st s = run P fs ipath n st s := by
  intro n
  induction n with
  | zero => intro m st s h; exact absurd rfl h
  | succ n ih =>
    intro m st s h
    revert h
    show runG false P fs ipath (n + 1) st s ≠ .running →
      runG false P fs ipath (n + 1 + m) st s = runG false P fs ipath (n + 1) st s
    rw [Nat.add_right_comm]
    unfold runG
    cases readLineG false fs ipath (P.params s) st with
    | stop | panic | err d => exact fun _ => rfl
    | skip st' => exact ih m st' s
    | clause text line r below =>
      dsimp only
      cases P.classify s text with
      | accept s' => exact ih m _ s'
      | abort | reject => exact fun _ => rfl

/-- In the repaired code no call of `pos.wrapErr` indexes outside `lines`
(the Go code would panic): a load never ends in `panic`, and every diagnostic's context window
satisfies `ctxLo ≤ line-1 ≤ ctxHi < len(lines)`. -/
theorem wrapErr_in_range (P : Parser σ) (fs : FS) (ipath : List Name) (main : Name) (n : Nat) (s : σ) :
    load P fs ipath main n s ≠ .panic ∧
    ∀ d, load P fs ipath main n s = .error d → d.ctxLo ≤ d.line - 1 ∧ d.line - 1 ≤ d.ctxHi ∧ d.ctxHi < d.nl := by
  have key := load_spec P fs ipath main n s
  constructor
  · intro h; rw [h] at key; exact key
  · intro d h; rw [h] at key; exact key.1.window

/-- Every diagnostic with a position names a file that was opened (`fs` holds a
readable file under that name) and a line `1 ≤ line ≤` its number of physical lines.  Every
element `(file, l)` of the include chain names an opened file — but `l` is the line AFTER the
include directive (`AfterInclude`: lines `l-k … l-1` are the directive, `2 ≤ l ≤ nphys + 1`), not
a line of the directive: the off-by-one of `r.lineno` in the chain loop of `wrapErr` (known
finding, witness `chain_names_missing_line` below). -/
theorem pos_exists (P : Parser σ) (fs : FS) (ipath : List Name) (main : Name) (n : Nat) (s : σ) (d : Diag)
    (h : load P fs ipath main n s = .error d) :
    (∃ body tail bad, fs d.file = .file body tail bad ∧ 1 ≤ d.line ∧ d.line ≤ nphys body tail bad) ∧
    ∀ p ∈ d.chain, AfterInclude fs p.1 p.2 := by
  have key := load_spec P fs ipath main n s
  rw [h] at key
  exact ⟨key.1.pos, key.1.chain⟩

/-- A diagnostic for a clause rejected by the clause parser names the
file and the FIRST physical line of that clause: `d.line` of `d.file` starts a logical line (it is line 1, or
the physical line before it carries no continuation mark: `LineStart`), and the logical line that starts there
(continuation lines joined, trimmed) is a text the parser rejected in some state; the
chain lists the including files (each suspended right behind its include directive). -/
theorem invalid_clause_pos (P : Parser σ) (fs : FS) (ipath : List Name) (main : Name) (n : Nat) (s : σ)
    (d : Diag) (h : load P fs ipath main n s = .error d) (hk : d.kind = .clause) :
    (∃ s' body tail bad raw rest k eof, fs d.file = .file body tail bad ∧
        clauseAt body tail bad d.line = .line raw rest k eof ∧
        P.classify s' (trimSpace raw) = .reject ∧ LineStart body d.line) ∧
    ∀ p ∈ d.chain, AfterInclude fs p.1 p.2 := by
  have key := load_spec P fs ipath main n s
  rw [h] at key
  exact ⟨key.2 hk, key.1.chain⟩

/-- `LineStart` tells continuation lines apart: in the file `x \⏎bad` line 2 continues line 1 and is no place a clause
can be reported at (`clauseAt` alone does read a line there), line 1 is -/
example : ¬ LineStart [[120, 32, 92], [98, 97, 100]] 2 ∧ LineStart [[120, 32, 92], [98, 97, 100]] 1 := by
  refine ⟨?_, Or.inl rfl⟩
  intro h
  rcases h with h | ⟨l, hl, he⟩
  · cases h
  · simp at hl
    subst hl
    revert he; decide

/-- The converse of `invalid_clause_pos`: the FIRST clause the parser rejects is the one reported, at the position
`readLine` handed out with it, with the chain of the frames below. -/
theorem reject_reported (P : Parser σ) (fs : FS) (ipath : List Name) (n : Nat) (st : List Frame) (s : σ)
    (hinv : Inv fs st) {text : Bytes} {line : Nat} {r : Frame} {below : List Frame}
    (hrl : readLine fs ipath (P.params s) st = .clause text line r below)
    (hc : P.classify s text = .reject) :
    ∃ d, run P fs ipath (n + 1) st s = .error d ∧ d.file = r.file ∧ d.line = line ∧
      d.chain = chainOf below ∧ d.kind = .clause := by
  have hsp := readLine_spec (fs := fs) ipath (P.params s) st hinv
  rw [hrl] at hsp
  obtain ⟨_, _, ⟨d, hw, _⟩, _⟩ := hsp
  refine ⟨d, ?_, wrapErr_some hw⟩
  show runG false P fs ipath (n + 1) st s = .error d
  unfold runG
  rw [show readLineG false fs ipath (P.params s) st = .clause text line r below from hrl]
  simp only [hc, hw]

/-- The stack of readers never holds more than ten frames. -/
theorem depth_le_ten (fs : FS) (ipath : List Name) (tbl : Table) (st : List Frame) (hinv : Inv fs st) :
    (∀ st', readLine fs ipath tbl st = .skip st' → st'.length ≤ 10) ∧
    (∀ text line r below, readLine fs ipath tbl st = .clause text line r below → below.length + 1 ≤ 10) := by
  have hsp := readLine_spec (fs := fs) ipath tbl st hinv
  constructor
  · intro st' h
    rw [h] at hsp
    cases st' with
    | nil => exact Nat.zero_le _
    | cons a b => exact hsp.1.1
  · intro text line r below h
    rw [h] at hsp
    exact hsp.1.1

/-- An include directive read by the tenth frame is an error at that
directive ("include depth limit exceeded"); nothing is opened. -/
theorem depth_refused (fs : FS) (ipath : List Name) (tbl : Table) (r : Frame) (below : List Frame)
    (hinv : Inv fs (r :: below)) (hten : below.length + 1 = 10)
    {text : Bytes} {rest : List Bytes} {k : Nat} {eof : Bool}
    (hg : gather r.tail r.bad [] r.rest 0 = .line text rest k eof)
    (hinc : (includeArg (trimSpace text)).isSome = true) (hni : ignoreLine (trimSpace text) = false) :
    ∃ d, readLine fs ipath tbl (r :: below) = .err d ∧ d.kind = .depth ∧ d.file = r.file ∧
      d.line = r.lineno ∧ d.chain = chainOf below := by
  obtain ⟨_, hok, hbelow⟩ := hinv
  obtain ⟨body, hfs, _, ⟨hk1, hnp, _⟩, _⟩ := line_pos hok hg hni
  obtain ⟨_, _, _, hln, _⟩ := hok
  have hlt : r.nl < r.nl + k := Nat.lt_add_of_pos_right hk1
  obtain ⟨d, h1, _⟩ := wrap_ok (r' := r.advance rest k eof) .depth hfs hln hlt (Nat.le_trans hlt hnp) hbelow
  obtain ⟨h3, h4, h5, h6⟩ := wrapErr_some h1
  refine ⟨d, ?_, h6, h3, h4, h5⟩
  show readLineG false fs ipath tbl (r :: below) = .err d
  obtain ⟨arg, harg⟩ := Option.isSome_iff_exists.mp hinc
  simp only [readLineG, hg, hni, Bool.false_eq_true, if_false, dispatch, harg, hten, Nat.le_refl, if_true, h1]
  rfl

/-- **the "EOF encountered while expecting line continuation" diagnostic is truthful**: the reader says it only of a
frame whose remaining physical lines all end in a backslash and whose file ends there — nothing, not even an
unterminated line, follows the last backslash-newline.  (Before the repair 74592f4 it was also said of a clause
whose continuation line was there but lacked the final newline.) -/
theorem eof_continuation_truthful (r : Frame) {k : Nat}
    (h : gather r.tail r.bad [] r.rest 0 = .eofCont k) :
    r.tail = [] ∧ ∀ l ∈ r.rest, endsBackslash l = true :=
  have ⟨_, h1, _, _, h2⟩ := gather_eofCont r.tail r.bad r.rest [] 0 h
  ⟨h1, h2⟩

/-- a clause continued into an unterminated last line is read: `title x \`, newline, ` y`, end of file -/
example : gather [32, 121] false [] [[116, 105, 116, 108, 101, 32, 120, 32, 92]] 0
    = .line [116, 105, 116, 108, 101, 32, 120, 32, 10, 32, 121] [] 2 true := by decide +kernel

/-- accepts everything except the text `bad` -/
def P0 : Parser Unit :=
  { classify := fun _ t => if t = [98, 97, 100] then .reject else .accept (), params := fun _ => [] }

/-- `a` = "title x⏎include a⏎" (includes itself), `m` = "include i⏎", `i` = "# c⏎x \⏎ y⏎bad⏎",
`n` = "include d⏎", `d` a directory -/
def fs0 : FS := fun n =>
  if n = [97] then .file [[116, 105, 116, 108, 101, 32, 120], [105, 110, 99, 108, 117, 100, 101, 32, 97]] [] false
  else if n = [109] then .file [[105, 110, 99, 108, 117, 100, 101, 32, 105]] [] false
  else if n = [105] then .file [[35, 32, 99], [120, 32, 92], [32, 121], [98, 97, 100]] [] false
  else if n = [110] then .file [[105, 110, 99, 108, 117, 100, 101, 32, 100]] [] false
  else if n = [100] then .dir
  else .missing

/-- a self-including file is refused at depth ten, at the include directive of the tenth frame -/
theorem self_include_refused :
    load P0 fs0 [[46]] [97] 100 () =
      .error { file := [97], line := 2, ctxLo := 0, ctxHi := 1, nl := 2,
               chain := List.replicate 9 ([97], 3), kind := .depth } := by decide +kernel

/-- a rejected clause in an included file: reported at `i:4` (its own line; the continuation
clause before it occupies lines 2-3), chain `m:2` — although `m` has ONE line: the chain names
the line after the include directive. -/
theorem chain_names_missing_line :
    load P0 fs0 [[46]] [109] 100 () =
      .error { file := [105], line := 4, ctxLo := 1, ctxHi := 3, nl := 4,
               chain := [([109], 2)], kind := .clause } ∧
    nphys [[105, 110, 99, 108, 117, 100, 101, 32, 105]] [] false = 1 := by decide +kernel

/-- before 90845f9: `include d` with `d` a directory panics in `wrapErr` (`lines[0]` of an empty slice) -/
theorem include_dir_panicked_old : loadOld P0 fs0 [[46]] [110] 100 () = .panic := by decide +kernel

/-- after 90845f9 it is an error at the include directive -/
theorem include_dir_error :
    load P0 fs0 [[46]] [110] 100 () =
      .error { file := [110], line := 1, ctxLo := 0, ctxHi := 0, nl := 1, chain := [], kind := .isDir [100] } := by
  decide +kernel

/-- before 90845f9 a main file that is a directory panics as well -/
theorem main_dir_panicked_old : loadOld P0 fs0 [[46]] [100] 100 () = .panic := by decide +kernel

open Shk.EditCmd in
/-- after 4e1a928 the syntax check of `edit` never reaches an index outside `parts`: every command
is either rejected ("invalid syntax") or has its two operands -/
theorem edit_check_total (cmd : Bytes) : editCheck false cmd ≠ .panic := by
  unfold editCheck
  -- `.panic` stands only in the `then` arm of the last `if old`; every other arm is `.ok` or `.invalid`
  split
  · split
    · nofun
    · split
      · split <;> nofun
      · simp
      · simp
  · nofun

open Shk.EditCmd in
/-- before 4e1a928: `edit s/ab` indexes `parts[2]` of a two-element slice; `edit s/a/b` (no closing
separator) was accepted -/
theorem edit_panicked_old :
    editCheck true [115, 47, 97, 98] = .panic ∧ editCheck false [115, 47, 97, 98] = .invalid ∧
    editCheck true [115, 47, 97, 47, 98] = .ok [97] [98] ∧ editCheck false [115, 47, 97, 47, 98] = .invalid ∧
    editCheck false [115, 47, 97, 47, 98, 47] = .ok [97] [98] := by decide +kernel

end Shk.C09
