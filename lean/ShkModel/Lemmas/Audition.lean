import ShkModel.Model.Audition
/-!
# The operations of the audit loop, taken apart

`setVar` in one piece, the equations of `visit` on each form of input, and a case principle for `assignOne`,
`checkExpect`, `visit` and a mood event, through which the proofs about the audit loop split cases.
Everything a visit of member `m` does is a composition of four primitive state changes: setting
the abort flag, `setVar` of one of `m`'s assignment targets, `St.emit` of an output that speaks of `m`, and
`setAud` of `m`'s record that keeps the wake-up flag.  `Respects m R` says that the preorder `R` on states
contains the last two, `Frame R` that it does not look at the abort flag; such an `R` relates the state before
and after every operation (`Respects.visit`, given the `setVar`s); `Frame.fold` and `Frame.stepEv` lift this to a
pass of the member loop and, for an `R` that ignores the mood fields as well, to an event.
-/
namespace Shk.Aud
open Shk

section
variable (c : Cfg) (s : St) (ts : Rat) (typ : Typ) (v : VarName) (val : Val) (cc : Bool)

/-- `setAndActivateVar` in one piece: without watchers nobody is woken and nothing is collected anyway -/
theorem setVar_eq :
    setVar c s ts typ v val cc = if val.isNil then s else
      { s with vals := fun w => if w = v then val else s.vals w,
               activated := fun w => if w = v then true else s.activated w,
               aud := fun m => if ((c.watchers v).any fun w => w.name = m && w.isAuditor)
                 then { s.aud m with activated := true } else s.aud m,
               out := if !(c.watchers v).isEmpty && cc && val != s.vals v then .obs ts typ v val :: s.out
                      else s.out } := by
  unfold setVar
  cases val.isNil
  · cases c.watchers v <;> rfl
  · rfl

theorem setVar_aud (n : String) : (setVar c s ts typ v val cc).aud n = s.aud n ∨
      (setVar c s ts typ v val cc).aud n = { s.aud n with activated := true } := by
  rw [setVar_eq]
  cases val.isNil
  · cases h : (c.watchers v).any fun w => w.name = n && w.isAuditor
    · exact .inl (if_neg (by simp [h]))
    · exact .inr (if_pos h)
  · exact .inl rfl

theorem setVar_out :
    (setVar c s ts typ v val cc).out = s.out ∨
      cc = true ∧ (setVar c s ts typ v val cc).out = .obs ts typ v val :: s.out := by
  rw [setVar_eq]
  cases val.isNil
  · simp only [Bool.false_eq_true, if_false]
    cases cc
    · exact .inl (if_neg (by simp))
    · cases h : !(c.watchers v).isEmpty && true && val != s.vals v
      · exact .inl (if_neg (by simp))
      · exact .inr ⟨rfl, if_pos rfl⟩
  · exact .inl rfl

theorem setVar_wakes (hv : val.isNil = false) (w : Member) (hw : w ∈ c.watchers v) (ha : w.isAuditor = true) :
    ((setVar c s ts typ v val cc).aud w.name).activated = true := by
  rw [setVar_eq, hv]
  exact congrArg AudSt.activated
    (if_pos (List.any_eq_true.2 ⟨w, hw, by rw [ha, Bool.and_true]; exact decide_eq_true rfl⟩))

end

@[simp] theorem setAud_aud_self (s : St) (k : String) (a : AudSt) : (setAud s k a).aud k = a :=
  if_pos rfl

theorem setAud_aud_other (s : St) (k n : String) (a : AudSt) (h : n ≠ k) :
    (setAud s k a).aud n = s.aud n :=
  if_neg h

theorem foldl_rel {α σ : Type} {R : σ → σ → Prop} (refl : ∀ s, R s s)
    (trans : ∀ {a b d}, R a b → R b d → R a d) (f : σ → α → σ) (xs : List α)
    (h : ∀ x ∈ xs, ∀ s, R s (f s x)) (s : σ) : R s (xs.foldl f s) := by
  induction xs generalizing s with
  | nil => exact refl s
  | cons x xs ih => exact trans (h x (.head _) s) (ih (fun y hy => h y (.tail _ hy)) _)

theorem foldl_fixed {α σ : Type} {f : σ → α → σ} {s : σ} (h : ∀ x, f s x = s) (xs : List α) :
    xs.foldl f s = s := by
  induction xs with
  | nil => rfl
  | cons x xs ih => rw [List.foldl_cons, h]; exact ih

/-- one member's turn in the member loop of `round` -/
def rvisit (c : Cfg) (final : Bool) (ts : Rat) (st : St) (m : Member) : St :=
  if visited final st m then visit c final ts st m else st

theorem visit_aborted (c : Cfg) (final : Bool) (ts : Rat) (s : St) (m : Member)
    (h : s.abort.isSome = true) : visit c final ts s m = s := if_pos h

theorem rvisit_aborted (c : Cfg) (final : Bool) (ts : Rat) (s : St) (m : Member)
    (h : s.abort.isSome = true) : rvisit c final ts s m = s := by
  unfold rvisit; rw [visit_aborted c final ts s m h, ite_self]

theorem round_aborted (c : Cfg) (final : Bool) (ts : Rat) (samples : List Sample) (s : St)
    (h : s.abort.isSome = true) : round c final ts samples s = s := if_pos h

theorem stepEv_aborted (c : Cfg) (s : St) (e : Ev) (h : s.abort.isSome = true) : stepEv c s e = s := by
  cases e with
  | sig ts xs => exact round_aborted c false ts xs s h
  | mood ts m =>
    simp only [stepEv, round_aborted c false ts [] s h, if_pos h, ite_self]

theorem foldl_stepEv_aborted (c : Cfg) (s : St) (evs : List Ev) (h : s.abort.isSome = true) :
    evs.foldl (stepEv c) s = s :=
  foldl_fixed (fun e => stepEv_aborted c s e h) evs

theorem abort_none_of {s s' : St} (keep : s.abort.isSome = true → s' = s) (h : s'.abort = none) :
    s.abort = none := by
  cases hab : s.abort with
  | none => rfl
  | some x => rw [keep (Option.isSome_of_eq_some hab), hab] at h; cases h

theorem round_ok {c : Cfg} {final : Bool} {ts : Rat} {samples : List Sample} {s : St} (h : s.abort = none) :
    round c final ts samples s = c.members.foldl (rvisit c final ts) (beginRound c ts samples s) := by
  unfold round; rw [h]; rfl

theorem stepEv_mood_cases {P : St → Prop} (c : Cfg) (s : St) (ts : Rat) (m : String) (same : P s)
    (ending : P (round c false ts [] s))
    (both : P (round c false ts [] { round c false ts [] s with moodStart := some ts, mood := m })) :
    P (stepEv c s (.mood ts m)) := by
  simp only [stepEv]
  by_cases hm : m = s.mood
  · rw [if_pos hm]; exact same
  · rw [if_neg hm]
    cases (round c false ts [] s).abort.isSome
    · exact both
    · exact ending

theorem assignOne_cases {P : St → Prop} (c : Cfg) (ts : Rat) (s : St) (a : Assign) (same : P s)
    (abort : ∀ e, P { s with abort := some e })
    (single : ∀ v, a.mode = .single → eval s.vals a.expr = .ok v →
      P (setVar c s ts (valTyp v) ⟨"", a.target⟩ v true))
    (collect : ∀ y l, a.mode ≠ .single → eval s.vals a.expr = .ok (.sc y) →
      collectStep a.mode a.n (curArray (s.vals ⟨"", a.target⟩)) y = some l →
      P (setVar c s ts .event ⟨"", a.target⟩ (.arr l) true)) : P (assignOne c ts s a) := by
  unfold assignOne
  split
  · exact same
  · split
    · exact same
    · split
      · exact abort _
      · exact abort _
      · next v he =>
        split
        · next hm => exact single v hm he
        · next hm =>
          split
          · exact abort _
          · next y =>
            split
            · exact abort _
            · next l hl => exact collect y l hm he hl

theorem checkExpect_cases {P : St → Prop} (s : St) (ts : Rat) (m : Member) (same : P s)
    (abort : P { s with abort := some .unmodelled })
    (err : ∀ T e, m.expect = some (T, e) → P (s.emit (.repErr ts m.name)))
    (fire : ∀ T e l, m.expect = some (T, e) → l < 2 → P (fireExpect s ts m.name T l)) :
    P (checkExpect s ts m) := by
  unfold checkExpect
  split
  · exact same
  · split
    · exact same
    · next T e he =>
      split
      · exact same
      · split
        · exact err T e he
        · exact abort
        · exact fire T e 0 he (by decide)
        · exact fire T e 1 he (by decide)

section
variable {c : Cfg} {final : Bool} {ts : Rat} {s : St} {m : Member}

theorem visit_asleep (hab : s.abort = none) (hc : condOf final s m = none) : visit c final ts s m = s := by
  unfold visit; rw [hab, hc]; rfl

theorem visit_error {e : Abort} (hab : s.abort = none) (hc : condOf final s m = some (.error e)) :
    visit c final ts s m = { s with abort := some e } := by
  unfold visit; rw [hab, hc]; rfl

theorem visit_start (hab : s.abort = none) (hc : condOf final s m = some (.ok true))
    (ha : (s.aud m.name).auditing = false) :
    visit c final ts s m = checkExpect (assignAll c ts (startPeriod s m) m.assigns) ts m := by
  unfold visit; rw [hab, hc, ha]; rfl

theorem visit_inside (hab : s.abort = none) (hc : condOf final s m = some (.ok true))
    (ha : (s.aud m.name).auditing = true) :
    visit c final ts s m = checkExpect (assignAll c ts s m.assigns) ts m := by
  unfold visit; rw [hab, hc, ha]; rfl

theorem visit_closing (hab : s.abort = none) (hc : condOf final s m = some (.ok false))
    (ha : (s.aud m.name).auditing = true) :
    visit c final ts s m = endPeriod (checkExpect (assignAll c ts s m.assigns) ts m) ts m := by
  unfold visit; rw [hab, hc, ha]; rfl

theorem visit_outside (hab : s.abort = none) (hc : condOf final s m = some (.ok false))
    (ha : (s.aud m.name).auditing = false) : visit c final ts s m = s := by
  unfold visit; rw [hab, hc, ha]; rfl

theorem visit_inactive (hcond : condOf final s m = some (.ok false) ∨ condOf final s m = none)
    (hna : (s.aud m.name).auditing = false) : visit c final ts s m = s := by
  cases hab : s.abort with
  | some _ => exact visit_aborted c final ts s m (Option.isSome_of_eq_some hab)
  | none => exact hcond.elim (visit_outside hab · hna) (visit_asleep hab)

theorem visit_cases {P : St → Prop} (idle : P s)
    (error : ∀ e, s.abort = none → condOf final s m = some (.error e) → P { s with abort := some e })
    (start : s.abort = none → condOf final s m = some (.ok true) → (s.aud m.name).auditing = false →
      P (checkExpect (assignAll c ts (startPeriod s m) m.assigns) ts m))
    (inside : s.abort = none → (s.aud m.name).auditing = true →
      P (checkExpect (assignAll c ts s m.assigns) ts m))
    (closing : s.abort = none → (s.aud m.name).auditing = true →
      P (endPeriod (checkExpect (assignAll c ts s m.assigns) ts m) ts m)) :
    P (visit c final ts s m) := by
  cases hab : s.abort with
  | some x => rw [visit_aborted c final ts s m (Option.isSome_of_eq_some hab)]; exact idle
  | none =>
    cases hc : condOf final s m with
    | none => rw [visit_asleep hab hc]; exact idle
    | some r =>
      cases r with
      | error e => rw [visit_error hab hc]; exact error e hab hc
      | ok b =>
        cases b <;> cases ha : (s.aud m.name).auditing
        · rw [visit_outside hab hc ha]; exact idle
        · rw [visit_closing hab hc ha]; exact closing hab ha
        · rw [visit_start hab hc ha]; exact start hab hc ha
        · rw [visit_inside hab hc ha]; exact inside hab ha

end

def Out.auditor? : Out → Option String
  | .obs .. => none
  | .rep _ a _ _ | .repErr _ a | .start a | .stop a => some a

structure Frame (R : St → St → Prop) : Prop where
  refl : ∀ s, R s s
  trans : ∀ {a b d}, R a b → R b d → R a d
  abort : ∀ s e, R s { s with abort := e }

structure Respects (m : Member) (R : St → St → Prop) : Prop extends Frame R where
  emit : ∀ s o, o.auditor? = some m.name → R s (s.emit o)
  setAud : ∀ s a, a.activated = (s.aud m.name).activated → R s (setAud s m.name a)

namespace Frame
variable {R : St → St → Prop} (h : Frame R)
include h

theorem assignOne (c : Cfg) (ts : Rat) (a : Assign)
    (hset : ∀ s typ val, R s (setVar c s ts typ ⟨"", a.target⟩ val true)) (s : St) :
    R s (assignOne c ts s a) :=
  assignOne_cases c ts s a (h.refl s) (fun _ => h.abort s _) (fun v _ _ => hset s _ v)
    fun _ l _ _ _ => hset s _ (.arr l)

theorem assignAll (c : Cfg) (ts : Rat) (as : List Assign)
    (hset : ∀ a ∈ as, ∀ s typ val, R s (setVar c s ts typ ⟨"", a.target⟩ val true)) (s : St) :
    R s (assignAll c ts s as) :=
  foldl_rel h.refl h.trans _ as (fun a ha => h.assignOne c ts a (hset a ha)) s

theorem fold (c : Cfg) (final : Bool) (ts : Rat) (ms : List Member)
    (hv : ∀ m ∈ ms, ∀ s, visited final s m = true → R s (visit c final ts s m)) (s : St) :
    R s (ms.foldl (rvisit c final ts) s) :=
  foldl_rel h.refl h.trans _ ms (fun m hm s => by
    unfold rvisit
    cases hvis : visited final s m
    · exact h.refl s
    · exact hv m hm s hvis) s

/-- the rounds of an event are sample-less (a mood change) or carry the samples of the event; the guard on `round`
hands that to the caller -/
theorem stepEv (mood : ∀ s ms md, R s { s with moodStart := ms, mood := md }) (c : Cfg) (e : Ev)
    (round : ∀ ts xs, (xs = [] ∨ e = .sig ts xs) → ∀ s, R s (round c false ts xs s)) (s : St) :
    R s (stepEv c s e) := by
  cases e with
  | sig ts xs => exact round ts xs (.inr rfl) s
  | mood ts m =>
    have quiet := round ts [] (.inl rfl)
    exact stepEv_mood_cases c s ts m (h.refl s) (quiet s) (h.trans (quiet s) (h.trans (mood ..) (quiet _)))

end Frame

namespace Respects
variable {m : Member} {R : St → St → Prop} (h : Respects m R)
include h

theorem setAud_emit (s : St) (a : AudSt) (o : Out)
    (ha : a.activated = (s.aud m.name).activated := by rfl) (ho : o.auditor? = some m.name := by rfl) :
    R s ((Aud.setAud s m.name a).emit o) :=
  h.trans (h.setAud s a ha) (h.emit _ o ho)

theorem fireExpect (s : St) (ts : Rat) (T : Table) (l : Nat) : R s (fireExpect s ts m.name T l) :=
  h.setAud_emit s _ _

theorem checkExpect (s : St) (ts : Rat) : R s (checkExpect s ts m) :=
  checkExpect_cases s ts m (h.refl s) (h.abort s _) (fun _ _ _ => h.emit s _ rfl)
    (fun T _ l _ _ => h.fireExpect s ts T l)

theorem startPeriod (s : St) : R s (startPeriod s m) := h.setAud_emit s _ _

theorem endPeriod (s : St) (ts : Rat) : R s (endPeriod s ts m) := by
  unfold Aud.endPeriod endJudge
  cases s.abort.isSome
  · cases m.expect with
    | none => exact h.setAud_emit s _ _
    | some p => exact h.trans (h.fireExpect s ts p.1 2) (h.setAud_emit _ _ _)
  · exact h.refl s

theorem visit (c : Cfg) (final : Bool) (ts : Rat)
    (hset : ∀ a ∈ m.assigns, ∀ s typ val, R s (setVar c s ts typ ⟨"", a.target⟩ val true)) (s : St) :
    R s (visit c final ts s m) :=
  have judge (s : St) : R s (Aud.checkExpect (assignAll c ts s m.assigns) ts m) :=
    h.trans (h.toFrame.assignAll c ts _ hset s) (h.checkExpect _ ts)
  visit_cases (h.refl s) (fun _ _ _ => h.abort s _)
    (fun _ _ _ => h.trans (h.startPeriod s) (judge _)) (fun _ _ => judge s)
    (fun _ _ => h.trans (judge s) (h.endPeriod _ ts))

end Respects

end Shk.Aud
