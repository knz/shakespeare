import ShkModel.Lemmas.PrinterInv
/-! Lemmas for C10: the interpretation clauses printed after the audience put the interpretation of
every member that expects something back; with the head and the audience, what `printCfg` emits for a
configuration that satisfies `Inv` loads to an equivalent one. -/
namespace Shk.Printer
open Shk.Story (Act)

theorem step_set (mt : String → Act → Bool) (c0 : Cfg) (dq rest : List Member) (q : Member) (f : Foul)
    (good : Bool) (hdq : ∀ x ∈ dq, x.name ≠ q.name) :
    step mt { c0 with members := dq ++ q :: rest } (.interp (.set f q.name good)) =
      some { c0 with members := dq ++ setFoul good f q :: rest } := by
  have hname : (setFoul good f q).name = q.name := by unfold setFoul; split <;> rfl
  have hfind : findMember { c0 with members := dq ++ q :: rest } q.name = some q :=
    List.find?_eq_some_iff_append.mpr ⟨by simp, dq, rest, rfl, by simpa using hdq⟩
  simp only [step, stepInterp, hfind, putMember]
  rw [putIn_append dq _ (hname ▸ hdq), putIn, if_pos hname.symm]

theorem load_interp (mt : String → Act → Bool) (c0 : Cfg) : ∀ (ms qs dq : List Member), All₂ MEq0 ms qs →
    ((dq ++ qs).map (·.name)).Nodup →
    ∃ qs', loadFrom mt { c0 with members := dq ++ qs } (printInterp ms) =
        some { c0 with members := dq ++ qs' } ∧ All₂ Member.Equiv ms qs'
  | [], _, dq, .nil, _ => ⟨[], rfl, .nil⟩
  | m :: ms, _, dq, .cons (b := q) (l₂ := qs) hmq hrest, hnd => by
    have hdq : ∀ x ∈ dq, x.name ≠ q.name := (nodup_map_mid hnd).1
    cases he : m.expects with
    | none =>
      obtain ⟨r, h1, h2⟩ := load_interp mt c0 ms qs (dq ++ [q]) hrest (by simpa using hnd)
      refine ⟨q :: r, ?_, .cons ⟨hmq.name, hmq.active, hmq.assigns, hmq.expects, hmq.obs, hmq.ylabel,
        hmq.noplot, by simp [he]⟩ h2⟩
      simpa [printInterp, he] using h1
    | some x =>
      let q2 : Member := setFoul true m.good (setFoul false m.bad q)
      obtain ⟨r, h1, h2⟩ := load_interp mt c0 ms qs (dq ++ [q2]) hrest
        (by simpa [show q2.name = q.name from rfl] using hnd)
      refine ⟨q2 :: r, ?_, .cons ⟨hmq.name, hmq.active, hmq.assigns, hmq.expects, hmq.obs, hmq.ylabel,
        hmq.noplot, fun _ => ⟨rfl, rfl⟩⟩ h2⟩
      have s1 := step_set mt c0 dq qs q m.bad false hdq
      have s2 : step mt _ (.interp (.set m.good q.name true)) = _ :=
        step_set mt c0 dq qs (setFoul false m.bad q) m.good true hdq
      have hp : printInterp (m :: ms) = Clause.interp (.set m.bad q.name false) ::
          Clause.interp (.set m.good q.name true) :: printInterp ms := by simp [printInterp, he, hmq.name]
      rw [hp, loadFrom_cons, s1, Option.bind_some, loadFrom_cons, s2]
      simpa using h1

theorem reload_of_inv {mt : String → Act → Bool} {c : Cfg} (hinv : Inv mt c)
    {A' : List (String × AClause)} (hA : All₂ KEquiv (sched c.members) A') :
    ∃ c', load mt (printWith c A') = some c' ∧ Cfg.Equiv c c' := by
  obtain ⟨c8, e8, hm0, hr, ha, hequiv⟩ := load_head hinv.head
  obtain ⟨rk, hrk⟩ := hinv.aud.ranked
  obtain ⟨qs, eA, hqs⟩ := aud_reload mt ((Grows.of_eq hr ha).audStatic hinv.aud.static) hm0
    hinv.aud.nonempty hrk hA
  obtain ⟨qs', eI, hqs'⟩ := load_interp mt c8 c.members qs [] hqs
    (by rw [List.nil_append, ← hqs.map_eq fun _ _ h => h.name]; exact hinv.aud.static.names)
  refine ⟨{ c8 with members := qs' }, ?_, hequiv qs' hqs'⟩
  rw [load, printWith, loadFrom_append, loadFrom_append, e8, Option.bind_some, eA]
  exact eI

end Shk.Printer
