import ShkModel.Model.Stopper
/-! The stopper model (C15): log and list lemmas, predicates on calls, and the transitions as rules, by cases on which
every invariant is proved. -/
namespace Shk.Stopper

theorem countP_set {α} (p : α → Bool) {l : List α} {i : Nat} {old : α} (new : α) (h : l[i]? = some old) :
    (l.set i new).countP p = l.countP p + (p new).toNat - (p old).toNat := by
  suffices (l.set i new).countP p + (p old).toNat = l.countP p + (p new).toNat by omega
  induction l generalizing i with
  | nil => simp at h
  | cons x xs ih =>
    cases i with
    | zero =>
      simp at h; subst h
      simp only [List.set_cons_zero, List.countP_cons]
      cases p new <;> cases p x <;> simp <;> omega
    | succ j =>
      have := ih (by simpa using h)
      simp only [List.set_cons_succ, List.countP_cons]; omega

theorem toNat_le_countP {α} {p : α → Bool} {l : List α} {i : Nat} {a : α} (h : l[i]? = some a) : (p a).toNat ≤ l.countP p := by
  cases hp : p a
  · exact Nat.zero_le _
  · exact List.countP_pos_iff.mpr ⟨a, List.mem_of_getElem? h, hp⟩

theorem getElem?_set_cases {α} {l : List α} {i j : Nat} {a b : α} (h : (l.set i a)[j]? = some b) :
    (j = i ∧ b = a ∧ i < l.length) ∨ (j ≠ i ∧ l[j]? = some b) := by
  by_cases hji : j = i
  · subst hji
    by_cases hl : j < l.length
    · simp [hl] at h
      exact Or.inl ⟨rfl, h.symm, hl⟩
    · simp [hl] at h
  · right
    refine ⟨hji, ?_⟩
    rwa [List.getElem?_set_ne (Ne.symm hji)] at h

theorem forall_set {α} {P : Nat → α → Prop} {l : List α} {i : Nat} {a : α} (hown : P i a)
    (hfr : ∀ j b, j ≠ i → l[j]? = some b → P j b) : ∀ j b, (l.set i a)[j]? = some b → P j b := by
  intro j b hj
  rcases getElem?_set_cases hj with ⟨rfl, rfl, _⟩ | ⟨hne, hj⟩
  · exact hown
  · exact hfr j b hne hj

theorem lt_length_of_getElem? {α} {l : List α} {i : Nat} {a : α} (h : l[i]? = some a) : i < l.length :=
  (List.getElem?_eq_some_iff.mp h).1

theorem exists_set {α} {P : α → Prop} {l : List α} {i c : Nat} {a a' : α} (ha : l[i]? = some a) (hP : P a → P a')
    (h : ∃ b, l[c]? = some b ∧ P b) : ∃ b, (l.set i a')[c]? = some b ∧ P b := by
  obtain ⟨b, hc, hb⟩ := h
  by_cases hci : c = i
  · subst hci
    rw [ha] at hc; cases hc
    exact ⟨a', by simp [lt_length_of_getElem? ha], hP hb⟩
  · exact ⟨b, by rwa [List.getElem?_set_ne (Ne.symm hci)], hb⟩

theorem set_inj_of_lt {α} {l : List α} {i : Nat} {a b : α} (hi : i < l.length) (h : l.set i a = l.set i b) : a = b := by
  have h1 : (l.set i a)[i]? = some a := by simp [hi]
  rw [h] at h1
  simp [hi] at h1
  exact h1.symm

theorem countP_zero_not {α} {p : α → Bool} {l : List α} (h : l.countP p = 0) {a : α} (ha : a ∈ l) : p a = false := by
  have := List.countP_eq_zero.mp h a ha
  simpa using this

theorem nodup_take_not_mem {α} {l : List α} (hn : l.Nodup) {k : Nat} {c : α} (hc : l[k]? = some c) : c ∉ l.take k := by
  induction l generalizing k with
  | nil => simp at hc
  | cons x xs ih =>
    cases k with
    | zero => simp
    | succ k =>
      simp at hc
      have hn' := List.nodup_cons.mp hn
      simp only [List.take_succ_cons, List.mem_cons, not_or]
      refine ⟨?_, ih hn'.2 hc⟩
      intro e; subst e
      exact hn'.1 (List.mem_of_getElem? hc)

/-- the specification writes implications between Booleans as `!a || b` -/
theorem bimp {a b : Bool} : (!a || b) = true ↔ (a = true → b = true) := by cases a <;> simp

@[simp] theorem has_nil (k : EK) (i : Nat) : has [] k i = false := rfl
@[simp] theorem has_append (l m : List Ev) (k : EK) (i : Nat) : has (l ++ m) k i = (has l k i || has m k i) := by
  simp [has]
@[simp] theorem hasV_append (l m : List Ev) (k : EK) (i v : Nat) :
    hasV (l ++ m) k i v = (hasV l k i v || hasV m k i v) := by
  simp [hasV]
@[simp] theorem has_cons (e : Ev) (m : List Ev) (k : EK) (i : Nat) :
    has (e :: m) k i = ((e.k == k && e.id == i) || has m k i) := by
  simp [has]
@[simp] theorem hasV_nil (k : EK) (i v : Nat) : hasV [] k i v = false := rfl
@[simp] theorem hasV_cons (e : Ev) (m : List Ev) (k : EK) (i v : Nat) :
    hasV (e :: m) k i v = ((e.k == k && e.id == i && e.v == v) || hasV m k i v) := by
  simp [hasV]

theorem has_snoc {l : List Ev} {e : Ev} {k : EK} (hk : e.k = k) (x : Nat) :
    has (l ++ [e]) k x = (has l k x || e.id == x) := by
  simp [hk]

theorem has_of_mem {l : List Ev} {e : Ev} (h : e ∈ l) : has l e.k e.id = true := by
  simp only [has, List.any_eq_true]
  exact ⟨e, h, by simp⟩

theorem hasV_of_mem {l : List Ev} {e : Ev} (h : e ∈ l) : hasV l e.k e.id e.v = true := by
  simp only [hasV, List.any_eq_true]
  exact ⟨e, h, by simp⟩

theorem has_of_hasV {l : List Ev} {k i v} (h : hasV l k i v = true) : has l k i = true := by
  simp only [hasV, has, List.any_eq_true] at *
  obtain ⟨e, he, h⟩ := h
  exact ⟨e, he, by simp_all⟩

theorem hasV_false_of_has {l : List Ev} {k : EK} {i : Nat} (h : has l k i = false) (v : Nat) : hasV l k i v = false :=
  Bool.eq_false_iff.mpr fun hh => Bool.noConfusion (h.symm.trans (has_of_hasV hh))

theorem exists_of_has {l : List Ev} {k i} (h : has l k i = true) : ∃ e ∈ l, e.k = k ∧ e.id = i := by
  simp only [has, List.any_eq_true] at h
  obtain ⟨e, he, h⟩ := h
  exact ⟨e, he, by simp_all⟩

theorem allHave_iff (l : List Ev) (sel : Ev → Bool) (k : EK) :
    allHave l sel k = true ↔ ∀ p ∈ l, sel p = true → has l k p.id = true := by
  simp only [allHave, List.all_eq_true, bimp]

@[simp] theorem cnt_append (l m : List Ev) (k : EK) : cnt (l ++ m) k = cnt l k + cnt m k := by
  simp [cnt]
@[simp] theorem cnt_nil (k : EK) : cnt [] k = 0 := rfl
@[simp] theorem cnt_cons (e : Ev) (m : List Ev) (k : EK) :
    cnt (e :: m) k = cnt m k + (if e.k == k && isLimCode e.c then 1 else 0) := by
  simp [cnt, List.countP_cons]

@[simp] theorem markSeq_append (l m : List Ev) : markSeq (l ++ m) = markSeq l ++ markSeq m := by
  simp [markSeq]
@[simp] theorem markSeq_nil : markSeq [] = [] := rfl
@[simp] theorem markSeq_cons (e : Ev) (m : List Ev) :
    markSeq (e :: m) = (if e.k == .mark then [e.v] else []) ++ markSeq m := by
  simp only [markSeq, List.filter_cons]
  split <;> simp

/-- `es` has an entry of kind `k`, whichever call it is about: this evaluates on the entries a rule appends, where `has`
would have to compare the variable call numbers -/
def hasK (es : List Ev) (k : EK) : Bool := es.any (·.k == k)

theorem has_of_hasK {es : List Ev} {k : EK} (h : hasK es k = false) (i : Nat) : has es k i = false := by
  simp only [hasK, has, List.any_eq_false, Bool.and_eq_true, not_and] at h ⊢
  exact fun e he hk => absurd hk (h e he)

theorem cnt_of_hasK {es : List Ev} {k : EK} (h : hasK es k = false) : cnt es k = 0 := by
  simp only [hasK, List.any_eq_false] at h
  simp only [cnt, List.countP_eq_zero, Bool.and_eq_true, not_and]
  exact fun e he hk => absurd hk (h e he)

theorem markSeq_of_hasK {es : List Ev} (h : hasK es .mark = false) : markSeq es = [] := by
  simp only [hasK, List.any_eq_false] at h
  simp only [markSeq, List.map_eq_nil_iff, List.filter_eq_nil_iff]
  exact h

theorem hasK_cancelEvs (s : St) (ids : List Nat) (c : Nat) {k : EK} (hk : k ≠ .cancelled) :
    hasK (s.cancelEvs ids c) k = false := by
  simp only [hasK, St.cancelEvs, List.any_map, List.any_eq_false]
  exact fun x _ => by simp [St.ev, Ne.symm hk]

theorem hasK_quiesceEvs (s : St) (who : Nat) {k : EK} (hk : k ≠ .cancelled) (hm : k ≠ .mark) :
    hasK (s.quiesceEvs who) k = false := by
  rw [St.quiesceEvs, hasK, List.any_append, ← hasK, hasK_cancelEvs _ _ _ hk]
  split <;> simp [Ne.symm hm]

theorem forall_mem_cancelEvs {P : Ev → Prop} {s : St} {ids : List Nat} {c : Nat} :
    (∀ e ∈ s.cancelEvs ids c, P e) ↔ ∀ x ∈ ids, P (s.ev .cancelled x c 0) :=
  List.forall_mem_map

theorem markSeq_quiesceEvs (s : St) (who : Nat) : markSeq (s.quiesceEvs who) = if s.quiescing then [] else [0] := by
  rw [St.quiesceEvs, markSeq_append, markSeq_of_hasK (hasK_cancelEvs _ _ _ (k := .mark) (by decide))]
  split <;> rfl

theorem has_cancelEvs (s : St) (ids : List Nat) (c : Nat) (i : Nat) :
    has (s.cancelEvs ids c) .cancelled i = decide (i ∈ ids) := by
  induction ids with
  | nil => rfl
  | cons x xs ih =>
    rw [St.cancelEvs, List.map_cons, has_cons, ← St.cancelEvs, ih]
    by_cases h : i = x
    · simp [St.ev, h]
    · simp [St.ev, h, Ne.symm h]

@[simp] theorem callOf_append (l m : List Ev) (i : Nat) : callOf (l ++ m) i = (callOf l i).or (callOf m i) := by
  simp only [callOf, List.find?_append]

theorem callOf_mem {l : List Ev} {i : Nat} {e : Ev} (h : callOf l i = some e) : e ∈ l ∧ e.k = .call ∧ e.id = i := by
  simp only [callOf] at h
  have h1 := List.mem_of_find?_eq_some h
  have h2 := List.find?_some h
  simp at h2
  exact ⟨h1, h2.1, h2.2⟩

theorem callOf_none_of_not_has {l : List Ev} {i : Nat} (h : has l .call i = false) : callOf l i = none := by
  simp only [callOf, List.find?_eq_none]
  intro e he hc
  have := has_of_mem he
  simp at hc
  rw [hc.1, hc.2] at this
  simp [this] at h

theorem logOkFrom_append (cap : Nat) (pre a b : List Ev) :
    logOkFrom cap pre (a ++ b) = (logOkFrom cap pre a && logOkFrom cap (pre ++ a) b) := by
  induction a generalizing pre with
  | nil => simp [logOkFrom]
  | cons e es ih =>
    simp only [List.cons_append, logOkFrom, ih, Bool.and_assoc]
    congr 2
    simp

theorem logOk_append (cap : Nat) (l es : List Ev) :
    logOk cap (l ++ es) = (logOk cap l && logOkFrom cap l es) := by
  simp [logOk, logOkFrom_append]

theorem logOkFrom_single (cap : Nat) (pre : List Ev) (e : Ev) : logOkFrom cap pre [e] = evOk cap pre e := by
  simp [logOkFrom]

theorem logOk_entry {cap : Nat} {pre post : List Ev} {e : Ev} (h : logOk cap (pre ++ e :: post) = true) :
    evOk cap pre e = true := by
  rw [logOk_append] at h
  simp only [logOkFrom, Bool.and_eq_true] at h
  exact h.2.1

theorem evOk_iff {cap : Nat} {pre : List Ev} {e : Ev} : evOk cap pre e = true ↔ globalOk cap pre e = true ∧ kindOk pre e = true :=
  Bool.and_eq_true_iff

theorem globalOk_iff {cap : Nat} {pre : List Ev} {e : Ev} : globalOk cap pre e = true ↔
    flagsOk pre e = true ∧ (e.s = true → drained pre = true) ∧
      (e.d = true → workersDone pre = true ∧ closersDone pre = true) ∧ e.n ≤ cap ∧
      cnt (pre ++ [e]) .bodyStart ≤ cnt pre .bodyEnd + e.n ∧ (e.s = true → cnt pre .ret + e.n ≤ cnt pre .call) := by
  simp only [globalOk, Bool.and_eq_true, bimp, decide_eq_true_eq, and_assoc]

/-! Where a call stands, read off its program counter: the windows that the three counters of `stopper.go` count
(`inTask`: runPrelude to runPostlude, `numTasks`; `inWg`: `stop.Add` to `stop.Done`; `holdsSem`: acquire to release) and
what the log has to show of it (`started` … `wDone`: the entries of its body; `wasAccepted`: runPrelude said yes;
`limOpen`: a limited call that has not returned; `activeStop`: the effective Stop, until it returns). -/

def inTask (t : Thread) : Bool :=
  match t.pc with
  | .accepted | .running | .ended | .released => true
  | _ => false
def inWg (t : Thread) : Bool :=
  match t.pc with
  | .wAdded | .wRunning | .wEnded => true
  | _ => false
def holdsSem (t : Thread) : Bool :=
  t.kind.isLimited &&
  match t.pc with
  | .semHeld | .refHold | .accepted | .running | .ended => true
  | _ => false
def started (t : Thread) : Bool :=
  t.kind.isTask &&
  match t.pc with
  | .running | .ended | .released | .done => true
  | _ => false
def bodyDone (t : Thread) : Bool :=
  t.kind.isTask &&
  match t.pc with
  | .ended | .released | .done => true
  | _ => false
def wasAccepted (t : Thread) : Bool :=
  t.kind.isTask &&
  match t.pc with
  | .accepted | .running | .ended | .released | .done => true
  | _ => false
def wStarted (t : Thread) : Bool :=
  t.kind == .worker &&
  match t.pc with
  | .wRunning | .wEnded | .done => true
  | _ => false
def wDone (t : Thread) : Bool :=
  t.kind == .worker &&
  match t.pc with
  | .wEnded | .done => true
  | _ => false
def limRunning (t : Thread) : Bool := t.kind.isLimited && t.pc == .running
def limOpen (t : Thread) : Bool := t.kind.isLimited && !t.ret
def activeStop (t : Thread) : Bool := t.kind == .stop && t.pc == .sActive

/-- what a call at `pc` returns: 1 ErrUnavailable, 2 ErrThrottled, 0 otherwise -/
def retCode (pc : Pc) : Nat := if pc = .failU then 1 else if pc = .failT then 2 else 0

def SP.rank : SP → Nat
  | .idle => 0 | .quiesce => 1 | .wait => 2 | .drained => 3 | .wg => 4 | .closers _ => 5 | .fin => 6

@[simp] theorem rank_idle : SP.rank .idle = 0 := rfl
@[simp] theorem rank_quiesce : SP.rank .quiesce = 1 := rfl
@[simp] theorem rank_wait : SP.rank .wait = 2 := rfl
@[simp] theorem rank_drained : SP.rank .drained = 3 := rfl
@[simp] theorem rank_wg : SP.rank .wg = 4 := rfl
@[simp] theorem rank_closers (k : Nat) : SP.rank (.closers k) = 5 := rfl
@[simp] theorem rank_fin : SP.rank .fin = 6 := rfl

theorem isLimCode_code (k : Kind) : isLimCode k.code = k.isLimited := by
  cases k <;> first | rfl | (rename_i w; cases w <;> rfl)
theorem isTaskCode_code (k : Kind) : isTaskCode k.code = k.isTask := by
  cases k <;> first | rfl | (rename_i w; cases w <;> rfl)
theorem ofCode_code (k : Kind) : Kind.ofCode k.code = some k := by
  cases k <;> first | rfl | (rename_i w; cases w <;> rfl)
theorem code_inj {a b : Kind} (h : a.code = b.code) : a = b := by
  have := ofCode_code a
  rw [h, ofCode_code b] at this
  exact (Option.some.inj this).symm

theorem code_ne {k k' : Kind} (h : k ≠ k') : k.code ≠ k'.code := fun e => h (code_inj e)

theorem bodyDone_of_started {t : Thread} (hs : started t = true) (hn : inTask t = false) : bodyDone t = true := by
  obtain ⟨k, pc, r⟩ := t
  -- `started` and `bodyDone` differ only at `running`, which `inTask` counts
  cases pc <;> first | exact hs | exact Bool.noConfusion hn

theorem wasAccepted_of_started {t : Thread} (hs : started t = true) : wasAccepted t = true := by
  obtain ⟨k, pc, r⟩ := t
  -- the two differ only at `accepted`, where no body has begun
  cases pc <;> first | exact hs | exact Bool.noConfusion ((Bool.and_false _).symm.trans hs)

theorem bodyDone_of_returned {k : Kind} {pc : Pc} {r : Bool} (hk : k.isTask = true) (hs : (retVal k pc).isSome = true)
    (h0 : retCode pc = 0) (hn : inTask ⟨k, pc, r⟩ = false) : bodyDone ⟨k, pc, r⟩ = true := by
  -- it is done, or else counted (`hn`), unable to return (`hs`), or it returned an error (`h0`)
  cases k <;> first
    | exact Bool.noConfusion hk
    | (cases pc <;> first | rfl | exact Bool.noConfusion hn | exact Bool.noConfusion hs | exact absurd h0 (by decide))

theorem holdsSem_of_limRunning {t : Thread} (h : limRunning t = true) : holdsSem t = true := by
  obtain ⟨k, pc, r⟩ := t
  simp only [limRunning, Bool.and_eq_true, beq_iff_eq] at h
  simp [holdsSem, h.1, h.2]

theorem limOpen_of_holdsSem {k : Kind} {pc : Pc} {r : Bool} (h : holdsSem ⟨k, pc, r⟩ = true) (hn : inTask ⟨k, pc, r⟩ = false)
    (hr : r = true → (retVal k pc).isSome = true) : limOpen ⟨k, pc, r⟩ = true := by
  cases r
  · simp only [holdsSem, Bool.and_eq_true] at h
    simp [limOpen, h.1]
  · -- between its acquire and `runPrelude`, or just refused: it cannot have returned
    have hr := hr rfl
    cases k <;> first
      | exact Bool.noConfusion h
      | (cases pc <;> first | exact Bool.noConfusion h | exact Bool.noConfusion hn | exact Bool.noConfusion hr)

theorem retVal_code {k : Kind} {pc : Pc} {v : Nat} (h : retVal k pc = some v) : v = retCode pc := by
  unfold retVal at h
  split at h <;> cases h <;> rfl

theorem retVal_task {k : Kind} {pc : Pc} {v : Nat} (r : Bool) (hk : k.isTask = true) (hv : retVal k pc = some v) :
    (pc = .failU ∧ v = 1) ∨ (pc = .failT ∧ v = 2 ∧ k = .ltask false) ∨
    (v = 0 ∧ wasAccepted ⟨k, pc, r⟩ = true ∧ (k = .task → pc = .done)) := by
  unfold retVal at hv
  split at hv <;> cases hv <;> simp [wasAccepted, Kind.isTask] at hk ⊢

theorem retVal_other {k : Kind} {pc : Pc} {v : Nat} (hk : k.isTask = false) (hv : retVal k pc = some v) :
    v = 0 ∧ k ≠ .probe ∧ (k = .quiesce → pc = .done) ∧ (k = .stop → pc = .done ∨ pc = .sNoop) := by
  unfold retVal at hv
  split at hv <;> cases hv <;> simp [Kind.isTask] at hk ⊢

/-! `go_cases h` turns `h : goStep s i ⟨kind, pc, ret⟩ = some s'` into one goal per enabled branch, with `kind`,
`pc` replaced by constructors and `s'` replaced by its definition. -/

macro "go_cases " h:ident : tactic =>
  `(tactic| (
    unfold goStep at $h:ident
    split at $h:ident
    all_goals ((try simp only [] at *); subst_vars)
    all_goals (try simp only [prelude, postlude, stopStep] at $h:ident)
    all_goals (repeat' split at $h:ident)
    all_goals (first | (simp at $h:ident; done) | skip)
    all_goals (simp only [Option.some.injEq] at $h:ident; subst $h:ident)))

macro "alt_cases " h:ident : tactic =>
  `(tactic| (
    unfold altStep at $h:ident
    split at $h:ident
    all_goals ((try simp only [] at *); subst_vars)
    all_goals (repeat' split at $h:ident)
    all_goals (first | (simp at $h:ident; done) | skip)
    all_goals (simp only [Option.some.injEq] at $h:ident; subst $h:ident)))

theorem step_elim {s s' : St} {i : Nat} {a : Act} (h : step s i a = some s') :
    ∃ t, s.threads[i]? = some t ∧
      ((a = .go ∧ goStep s i t = some s') ∨ (a = .ret ∧ retStep s i t = some s') ∨ (a = .alt ∧ altStep s i t = some s')) := by
  unfold step at h
  split at h
  · cases h
  · rename_i t ht
    refine ⟨t, ht, ?_⟩
    cases a <;> simp_all

theorem retStep_elim {s s' : St} {i : Nat} {t : Thread} (h : retStep s i t = some s') :
    ∃ v, t.ret = false ∧ retVal t.kind t.pc = some v ∧ s' = s.upd i { t with ret := true } [s.ev .ret i t.kind.code v] := by
  unfold retStep at h
  split at h
  · cases h
  · split at h
    · rename_i v hv
      refine ⟨v, by simp_all, hv, ?_⟩
      simp at h; exact h.symm
    · cases h

/-- `step` in rule form; `giveUp` is also the branch of `goStep` for a full semaphore while quiescing -/
inductive Rule (s : St) (i : Nat) : Thread → St → Prop
  | accept {r} (q : s.quiescing = false) :
    Rule s i ⟨.task, .init, r⟩ ({ s with numTasks := s.numTasks + 1 }.upd i ⟨.task, .accepted, r⟩ [])
  | refuse {r} (q : s.quiescing = true) : Rule s i ⟨.task, .init, r⟩ (s.upd i ⟨.task, .failU, r⟩ [])
  | acceptA {r} (q : s.quiescing = false) :
    Rule s i ⟨.atask, .init, r⟩ ({ s with numTasks := s.numTasks + 1 }.upd i ⟨.atask, .accepted, r⟩ [])
  | refuseA {r} (q : s.quiescing = true) : Rule s i ⟨.atask, .init, r⟩ (s.upd i ⟨.atask, .failU, r⟩ [])
  | acquire {w r} (c : s.sem < s.cap) :
    Rule s i ⟨.ltask w, .init, r⟩ ({ s with sem := s.sem + 1 }.upd i ⟨.ltask w, .semHeld, r⟩ [])
  | throttle {w r} (c : ¬ s.sem < s.cap) (q : s.quiescing = false) (hw : w = false) :
    Rule s i ⟨.ltask w, .init, r⟩ (s.upd i ⟨.ltask w, .failT, r⟩ [])
  | acceptL {w r} (q : s.quiescing = false) :
    Rule s i ⟨.ltask w, .semHeld, r⟩ ({ s with numTasks := s.numTasks + 1 }.upd i ⟨.ltask w, .accepted, r⟩ [])
  | refuseL {w r} (q : s.quiescing = true) : Rule s i ⟨.ltask w, .semHeld, r⟩ (s.upd i ⟨.ltask w, .refHold, r⟩ [])
  | giveBack {w r} : Rule s i ⟨.ltask w, .refHold, r⟩ ({ s with sem := s.sem - 1 }.upd i ⟨.ltask w, .failU, r⟩ [])
  | start {r} : Rule s i ⟨.task, .accepted, r⟩ (s.upd i ⟨.task, .running, r⟩ [s.ev .bodyStart i Kind.task.code 0])
  | startA {r} : Rule s i ⟨.atask, .accepted, r⟩ (s.upd i ⟨.atask, .running, r⟩ [s.ev .bodyStart i Kind.atask.code 0])
  | startL {w r} :
    Rule s i ⟨.ltask w, .accepted, r⟩ (s.upd i ⟨.ltask w, .running, r⟩ [s.ev .bodyStart i (Kind.ltask w).code 0])
  | finish {r} : Rule s i ⟨.task, .running, r⟩ (s.upd i ⟨.task, .ended, r⟩ [s.ev .bodyEnd i Kind.task.code 0])
  | finishA {r} : Rule s i ⟨.atask, .running, r⟩ (s.upd i ⟨.atask, .ended, r⟩ [s.ev .bodyEnd i Kind.atask.code 0])
  | finishL {w r} :
    Rule s i ⟨.ltask w, .running, r⟩ (s.upd i ⟨.ltask w, .ended, r⟩ [s.ev .bodyEnd i (Kind.ltask w).code 0])
  | leave {r} : Rule s i ⟨.task, .ended, r⟩ ({ s with numTasks := s.numTasks - 1 }.upd i ⟨.task, .done, r⟩ [])
  | leaveA {r} : Rule s i ⟨.atask, .ended, r⟩ ({ s with numTasks := s.numTasks - 1 }.upd i ⟨.atask, .done, r⟩ [])
  | release {w r} : Rule s i ⟨.ltask w, .ended, r⟩ ({ s with sem := s.sem - 1 }.upd i ⟨.ltask w, .released, r⟩ [])
  | leaveL {w r} :
    Rule s i ⟨.ltask w, .released, r⟩ ({ s with numTasks := s.numTasks - 1 }.upd i ⟨.ltask w, .done, r⟩ [])
  | wAdd {r} : Rule s i ⟨.worker, .init, r⟩ ({ s with wg := s.wg + 1 }.upd i ⟨.worker, .wAdded, r⟩ [])
  | wStart {r} : Rule s i ⟨.worker, .wAdded, r⟩ (s.upd i ⟨.worker, .wRunning, r⟩ [s.ev .wStart i Kind.worker.code 0])
  | wEnd {r} : Rule s i ⟨.worker, .wRunning, r⟩ (s.upd i ⟨.worker, .wEnded, r⟩ [s.ev .wEnd i Kind.worker.code 0])
  | wDone {r} : Rule s i ⟨.worker, .wEnded, r⟩ ({ s with wg := s.wg - 1 }.upd i ⟨.worker, .done, r⟩ [])
  | closerLate {r} (c : s.sClosed = true) : Rule s i ⟨.closer, .init, r⟩ (s.upd i ⟨.closer, .cImm, r⟩ [])
  | closerAdd {r} (c : s.sClosed = false) :
    Rule s i ⟨.closer, .init, r⟩ ({ s with closers := s.closers ++ [i] }.upd i ⟨.closer, .done, r⟩ [])
  | closerNow {r} : Rule s i ⟨.closer, .cImm, r⟩ (s.upd i ⟨.closer, .done, r⟩ [s.ev .closer i Kind.closer.code 0])
  | wcqNow {r} (q : s.quiescing = true) :
    Rule s i ⟨.wcq, .init, r⟩ (s.upd i ⟨.wcq, .done, r⟩ [s.ev .cancelled i Kind.wcq.code 0])
  | wcqAdd {r} (q : s.quiescing = false) :
    Rule s i ⟨.wcq, .init, r⟩ ({ s with qCancels := s.qCancels ++ [i] }.upd i ⟨.wcq, .done, r⟩ [])
  | wcsNow {r} (c : s.sClosed = true) :
    Rule s i ⟨.wcs, .init, r⟩ (s.upd i ⟨.wcs, .done, r⟩ [s.ev .cancelled i Kind.wcs.code 0])
  | wcsAdd {r} (c : s.sClosed = false) :
    Rule s i ⟨.wcs, .init, r⟩ ({ s with sCancels := s.sCancels ++ [i] }.upd i ⟨.wcs, .done, r⟩ [])
  | quiesce {r} : Rule s i ⟨.quiesce, .init, r⟩ ({ s with quiescing := true }.upd i ⟨.quiesce, .qWait, r⟩ (s.quiesceEvs i))
  | quiesced {r} (n : s.numTasks = 0) : Rule s i ⟨.quiesce, .qWait, r⟩ (s.upd i ⟨.quiesce, .done, r⟩ [])
  | stopNoop {r} (c : s.stopCalled = true) : Rule s i ⟨.stop, .init, r⟩ (s.upd i ⟨.stop, .sNoop, r⟩ [])
  | stopBegin {r} (c : s.stopCalled = false) :
    Rule s i ⟨.stop, .init, r⟩ ({ s with stopCalled := true, sp := .quiesce }.upd i ⟨.stop, .sActive, r⟩ [])
  | stopQuiesce {r} (p : s.sp = .quiesce) :
    Rule s i ⟨.stop, .sActive, r⟩ ({ s with quiescing := true, sp := .wait }.upd i ⟨.stop, .sActive, r⟩ (s.quiesceEvs i))
  | stopDrained {r} (p : s.sp = .wait) (n : s.numTasks = 0) :
    Rule s i ⟨.stop, .sActive, r⟩ ({ s with sp := .drained }.upd i ⟨.stop, .sActive, r⟩ [s.ev .mark i 0 1])
  | stopClose {r} (p : s.sp = .drained) :
    Rule s i ⟨.stop, .sActive, r⟩ ({ s with sp := .wg, sClosed := true }.upd i ⟨.stop, .sActive, r⟩
      (s.cancelEvs s.sCancels 7 ++ [(⟨.mark, i, 0, 2, s.quiescing, true, s.dClosed, s.sem⟩ : Ev)]))
  | stopWaited {r} (p : s.sp = .wg) (n : s.wg = 0) :
    Rule s i ⟨.stop, .sActive, r⟩ ({ s with sp := .closers 0 }.upd i ⟨.stop, .sActive, r⟩ [s.ev .mark i 0 3])
  | stopCloser {r k c} (p : s.sp = .closers k) (hc : s.closers[k]? = some c) :
    Rule s i ⟨.stop, .sActive, r⟩ ({ s with sp := .closers (k + 1) }.upd i ⟨.stop, .sActive, r⟩ [s.ev .closer c 5 0])
  | stopStopped {r k} (p : s.sp = .closers k) (hc : s.closers[k]? = none) :
    Rule s i ⟨.stop, .sActive, r⟩ ({ s with sp := .fin, dClosed := true }.upd i ⟨.stop, .sActive, r⟩
      [⟨.mark, i, 0, 4, s.quiescing, s.sClosed, true, s.sem⟩])
  | stopReturn {r} (p : s.sp = .fin) : Rule s i ⟨.stop, .sActive, r⟩ (s.upd i ⟨.stop, .done, r⟩ [])
  | probe {r} : Rule s i ⟨.probe, .init, r⟩ (s.upd i ⟨.probe, .done, r⟩ [s.ev .fin i Kind.probe.code 0])
  | giveUp {w r} (q : s.quiescing = true) : Rule s i ⟨.ltask w, .init, r⟩ (s.upd i ⟨.ltask w, .failU, r⟩ [])
  | wcqCancel {r} (hr : r = true) :
    Rule s i ⟨.wcq, .done, r⟩ ({ s with qCancels := s.qCancels.erase i }.upd i ⟨.wcq, .ucancel, r⟩
      [s.ev .cancelled i Kind.wcq.code 0])
  | wcsCancel {r} (hr : r = true) :
    Rule s i ⟨.wcs, .done, r⟩ ({ s with sCancels := s.sCancels.erase i }.upd i ⟨.wcs, .ucancel, r⟩
      [s.ev .cancelled i Kind.wcs.code 0])
  | ret {k pc v} (hv : retVal k pc = some v) : Rule s i ⟨k, pc, false⟩ (s.upd i ⟨k, pc, true⟩ [s.ev .ret i k.code v])

theorem step_rule {s s' : St} {i : Nat} {a : Act} (h : step s i a = some s') :
    ∃ t, s.threads[i]? = some t ∧ Rule s i t s' := by
  obtain ⟨t, ht, ⟨_, hg⟩ | ⟨_, hg⟩ | ⟨_, hg⟩⟩ := step_elim h
  all_goals refine ⟨t, ht, ?_⟩
  · obtain ⟨kind, pc, ret⟩ := t
    go_cases hg
    -- one constructor of `Rule` per branch, found by its thread and successor state; its premises are the guards on the
    -- way to the branch, at hand from the `split`s: as they stand, or as `¬ c = true` where the rule says `c = false`
    all_goals constructor <;> first | assumption | exact Bool.eq_false_iff.mpr ‹_›
  · obtain ⟨v, hr, hv, rfl⟩ := retStep_elim hg
    obtain ⟨kind, pc, ret⟩ := t
    cases hr
    exact .ret hv
  · obtain ⟨kind, pc, ret⟩ := t
    alt_cases hg
    all_goals constructor <;> first | assumption | exact Bool.eq_false_iff.mpr ‹_›

theorem getElem?_spawn {s : St} {k : Kind} {j : Nat} {t : Thread} (h : (spawn s k).threads[j]? = some t) :
    s.threads[j]? = some t ∨ (j = s.threads.length ∧ t = { kind := k }) := by
  simp only [spawn, List.getElem?_append] at h
  split at h
  · exact .inl h
  · right
    obtain ⟨h1, h2⟩ := List.getElem?_eq_some_iff.mp h
    simp at h1 h2
    exact ⟨by omega, h2.symm⟩

theorem exists_spawn {P : Thread → Prop} {s : St} {c : Nat} (k : Kind) (h : ∃ t, s.threads[c]? = some t ∧ P t) :
    ∃ t, (spawn s k).threads[c]? = some t ∧ P t :=
  h.imp fun _ h => ⟨(List.getElem?_append_left (lt_length_of_getElem? h.1)).trans h.1, h.2⟩

theorem Reach.rules {cap : Nat} {motive : (s : St) → Reach cap s → Prop} (init : motive (Stopper.init cap) .init)
    (spawn : ∀ s k (h : Reach cap s), motive s h → motive (Stopper.spawn s k) (.spawn s k h))
    (step : ∀ s s' i t (h : Reach cap s) (h' : Reach cap s'), s.threads[i]? = some t → Rule s i t s' → motive s h → motive s' h')
    {s : St} (h : Reach cap s) : motive s h := by
  induction h with
  | init => exact init
  | spawn s k h ih => exact spawn s k h ih
  | step s s' i a h hs ih =>
    obtain ⟨t, ht, r⟩ := step_rule hs
    exact step s s' i t h _ ht r ih

/-- an invariant of each call: for a new call, for the old ones when a call is added, for the call that takes a step and
for the others -/
theorem Reach.calls {cap : Nat} {P : St → Nat → Thread → Prop}
    (new : ∀ s k, Reach cap s → P (Stopper.spawn s k) s.threads.length { kind := k })
    (old : ∀ s k j t, Reach cap s → s.threads[j]? = some t → P s j t → P (Stopper.spawn s k) j t)
    (own : ∀ s s' i t, Reach cap s → s.threads[i]? = some t → Rule s i t s' → P s i t →
      ∃ t', s'.threads = s.threads.set i t' ∧ P s' i t')
    (frame : ∀ s s' i t j tj, Reach cap s → s.threads[i]? = some t → Rule s i t s' → j ≠ i → s.threads[j]? = some tj →
      P s j tj → P s' j tj)
    {s : St} (h : Reach cap s) : ∀ j t, s.threads[j]? = some t → P s j t := by
  induction h using Reach.rules with
  | init => intro j t hj; simp [Stopper.init] at hj
  | spawn s k hr ih =>
    intro j t hj
    rcases getElem?_spawn hj with hj | ⟨rfl, rfl⟩
    · exact old s k j t hr hj (ih j t hj)
    · exact new s k hr
  | step s s' i t hr _ ht r ih =>
    obtain ⟨t', hthr, hown⟩ := own s s' i t hr ht r (ih i t ht)
    rw [hthr]
    exact forall_set hown fun j tj hne hj => frame s s' i t j tj hr ht r hne hj (ih j tj hj)

end Shk.Stopper
