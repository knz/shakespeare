import ShkModel.Model.Runner
/-!
# The closure certificate of the runner, evaluated on codes (C07)

`reach` and `closed` decide membership by comparing twelve-field records along growing lists, which the
kernel does slowly.  Here a state is coded as a number (one bit per flag, the phase on top) and a set of
states as the bits of a number; `reachC` and `closedC` are `reach` and `closed` on that representation
(`reachableC` with the fuel of `reachable`), and `certified_eq` says that a certificate may be evaluated
there.
-/
namespace Shk.Runner

def Phase.code : Phase → Nat
  | .reading => 0 | .draining => 1 | .drained => 2 | .returned => 3

def Phase.ofCode : Nat → Phase
  | 0 => .reading | 1 => .draining | 2 => .drained | _ => .returned

def bit (b : Bool) (n : Nat) : Nat := b.toNat + 2 * n

def St.code (s : St) : Nat :=
  bit s.alive <| bit s.pipe <| bit s.orphans <| bit s.interrupt <| bit s.hup <| bit s.killed <|
  bit s.stop <| bit s.cancel <| bit s.term <| bit s.grace <| bit s.lateSignal s.phase.code

def St.ofCode (n0 : Nat) : St :=
  let n1 := n0 / 2; let n2 := n1 / 2; let n3 := n2 / 2; let n4 := n3 / 2; let n5 := n4 / 2; let n6 := n5 / 2
  let n7 := n6 / 2; let n8 := n7 / 2; let n9 := n8 / 2; let n10 := n9 / 2
  { alive := n0 % 2 == 1, pipe := n1 % 2 == 1, orphans := n2 % 2 == 1, interrupt := n3 % 2 == 1, hup := n4 % 2 == 1,
    killed := n5 % 2 == 1, stop := n6 % 2 == 1, cancel := n7 % 2 == 1, term := n8 % 2 == 1, grace := n9 % 2 == 1,
    lateSignal := n10 % 2 == 1, phase := .ofCode (n10 / 2) }

theorem bit_odd (b : Bool) (n : Nat) : (bit b n % 2 == 1) = b := by
  cases b <;> simp [bit] <;> omega

theorem bit_half (b : Bool) (n : Nat) : bit b n / 2 = n := by
  cases b <;> simp [bit] <;> omega

theorem St.ofCode_code (s : St) : St.ofCode s.code = s := by
  have hp : Phase.ofCode s.phase.code = s.phase := by cases s.phase <;> rfl
  unfold St.ofCode St.code
  simp only [bit_odd, bit_half, hp]

theorem St.code_inj {s t : St} : s.code = t.code ↔ s = t :=
  ⟨fun h => by rw [← s.ofCode_code, h, t.ofCode_code], fun h => h ▸ rfl⟩

/-- the set `m` with `c` added -/
def ins (m c : Nat) : Nat := m ||| 1 <<< c

theorem testBit_ins (m c d : Nat) : (ins m c).testBit d = (m.testBit d || decide (c = d)) := by
  simp [ins, Nat.one_shiftLeft, Nat.testBit_two_pow]

/-- `reach`, with the states seen so far both as the list of their codes and as a bit set -/
def reachC (p : Params) : Nat → Nat → List Nat → List Nat → List Nat
  | 0, _, seen, _ => seen
  | _, _, seen, [] => seen
  | n + 1, m, seen, c :: todo =>
    let r := (allEvents.map fun e => (step p (.ofCode c) e).code).foldl
      (fun (r : Nat × List Nat) t => if r.1.testBit t then r else (ins r.1 t, r.2 ++ [t])) (m, [])
    reachC p n r.1 (seen ++ r.2) (todo ++ r.2)

def reachableC (p : Params) : List Nat := reachC p 4000 (ins 0 (St.code {})) [St.code {}] [St.code {}]

def closedC (p : Params) (S : List Nat) : Bool :=
  let m := S.foldl ins 0
  m.testBit (St.code {}) && S.all fun c => allEvents.all fun e => m.testBit (step p (.ofCode c) e).code

/-- the bit set `m` holds exactly the codes of the states of `l` -/
def Rep (m : Nat) (l : List St) : Prop := ∀ t : St, m.testBit t.code = l.contains t

theorem Rep.ins {m : Nat} {l : List St} (h : Rep m l) (s : St) : Rep (ins m s.code) (l ++ [s]) := by
  intro t
  simp [testBit_ins, h t, St.code_inj, eq_comm]

theorem rep_foldl (l' : List St) : ∀ {m : Nat} {l : List St}, Rep m l → Rep ((l'.map St.code).foldl ins m) (l ++ l') := by
  induction l' with
  | nil => intro m l h; simpa using h
  | cons s l' ih =>
    intro m l h
    simpa using ih (h.ins s)

theorem rep_zero : Rep 0 [] := fun t => by simp

/-- one round of the work list: the new states, and the bit set grown by them -/
theorem round_map (seen : List St) (L : List St) : ∀ (acc : List St) (m : Nat), Rep m (seen ++ acc) →
    let f := fun (acc : List St) t => if seen.contains t || acc.contains t then acc else acc ++ [t]
    let r := (L.map St.code).foldl
      (fun (r : Nat × List Nat) t => if r.1.testBit t then r else (ins r.1 t, r.2 ++ [t])) (m, acc.map St.code)
    r.2 = (L.foldl f acc).map St.code ∧ Rep r.1 (seen ++ L.foldl f acc) := by
  induction L with
  | nil => intro acc m h; exact ⟨rfl, h⟩
  | cons t L ih =>
    intro acc m h
    simp only [List.map_cons, List.foldl_cons, h t, List.contains_append]
    by_cases ht : (seen.contains t || acc.contains t) = true
    · simp only [ht, if_true]; exact ih acc m h
    · simp only [ht, if_false, Bool.false_eq_true]
      have := ih (acc ++ [t]) (ins m t.code) (by rw [← List.append_assoc]; exact h.ins t)
      simpa using this

theorem reach_map (p : Params) : ∀ (n m : Nat) (seen todo : List St), Rep m seen →
    (reach p n seen todo).map St.code = reachC p n m (seen.map St.code) (todo.map St.code) := by
  intro n
  induction n with
  | zero => intro m seen todo _; cases todo <;> rfl
  | succ n ih =>
    intro m seen todo h
    cases todo with
    | nil => rfl
    | cons s todo =>
      have hr := round_map seen (allEvents.map (step p s)) [] m (by simpa using h)
      simp only [List.map_map, List.map_nil] at hr
      simp only [reach, reachC, List.map_cons, St.ofCode_code]
      rw [show (allEvents.map fun e => (step p s e).code) = allEvents.map (St.code ∘ step p s) from rfl, hr.1,
        ← List.map_append, ← List.map_append]
      exact ih _ _ _ hr.2

theorem closed_map (p : Params) (S : List St) : closed p S = closedC p (S.map St.code) := by
  have h : Rep ((S.map St.code).foldl ins 0) S := by simpa using rep_foldl S rep_zero
  simp only [closed, closedC, h _, List.all_map, Function.comp_def, St.ofCode_code]

/-- a certificate over the reachable set may be evaluated on codes -/
theorem certified_eq (p : Params) (φ : St → Bool) :
    (closed p (reachable p) && (reachable p).all φ) =
      (closedC p (reachableC p) && (reachableC p).all fun c => φ (.ofCode c)) := by
  have h : (reachable p).map St.code = reachableC p :=
    reach_map p 4000 _ [{}] [{}] (by simpa using rep_zero.ins {})
  rw [closed_map, h, ← h, List.all_map]
  simp only [Function.comp_def, St.ofCode_code]

end Shk.Runner
