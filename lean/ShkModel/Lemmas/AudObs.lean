import ShkModel.Lemmas.Audition
/-!
# Lemmas for C08 (forwarding): which `Out.obs` items the audit loop emits for signal samples

A variable with a non-empty actor is a signal of an actor; computed variables (`t`, `mood`,
`moodt`, assignment targets) have actor `""`.
-/
namespace Shk.Aud
open Shk

/-- an observation of a signal sample (as opposed to a computed variable, a report, a marker) -/
def isSigObs : Out → Bool
  | .obs _ _ v _ => v.actor != ""
  | _ => false

def sigObs (out : List Out) : List Out := out.filter isSigObs

/-- `o'` extends `o` (outputs are consed in front) by items none of which is a signal observation -/
def QuietExt (o o' : List Out) : Prop := ∃ added, o' = added ++ o ∧ sigObs added = []

theorem sigObs_append (a b : List Out) : sigObs (a ++ b) = sigObs a ++ sigObs b :=
  List.filter_append ..

theorem QuietExt.refl (o : List Out) : QuietExt o o := ⟨[], rfl, rfl⟩

theorem QuietExt.trans {a b c : List Out} (h1 : QuietExt a b) (h2 : QuietExt b c) : QuietExt a c := by
  obtain ⟨x, rfl, hx⟩ := h1
  obtain ⟨y, rfl, hy⟩ := h2
  exact ⟨y ++ x, (List.append_assoc ..).symm, by rw [sigObs_append, hx, hy]; rfl⟩

theorem QuietExt.sigObs_eq {a b : List Out} (h : QuietExt a b) : sigObs b = sigObs a := by
  obtain ⟨x, rfl, hx⟩ := h
  rw [sigObs_append, hx]; rfl

theorem setVar_false_out (c : Cfg) (s : St) (ts : Rat) (typ : Typ) (v : VarName) (val : Val) :
    (setVar c s ts typ v val false).out = s.out :=
  (setVar_out c s ts typ v val false).elim id (fun h => nomatch h.1)

theorem setVar_quiet (c : Cfg) (s : St) (ts : Rat) (typ : Typ) (v : VarName) (val : Val) (b : Bool)
    (h : v.actor = "") : QuietExt s.out (setVar c s ts typ v val b).out := by
  rcases setVar_out c s ts typ v val b with e | ⟨_, e⟩ <;> rw [e]
  · exact .refl _
  · exact ⟨[.obs ts typ v val], rfl, by simp [sigObs, isSigObs, h]⟩

theorem quiet_frame : Frame fun s s' => QuietExt s.out s'.out :=
  ⟨fun s => .refl s.out, .trans, fun s _ => .refl s.out⟩

theorem quiet_respects (m : Member) : Respects m fun s s' => QuietExt s.out s'.out where
  toFrame := quiet_frame
  emit := fun s o ho => ⟨[o], rfl, by
    cases o with
    | obs => cases ho
    | _ => rfl⟩
  setAud := fun s _ _ => .refl s.out

theorem assignOne_quiet (c : Cfg) (ts : Rat) (s : St) (a : Assign) :
    QuietExt s.out (assignOne c ts s a).out :=
  quiet_frame.assignOne c ts a (fun s typ val => setVar_quiet c s ts typ ⟨"", a.target⟩ val true rfl) s

/-- a visit emits no signal observation: its assignments target computed variables, everything else it emits
speaks of the auditor -/
theorem visit_quiet (c : Cfg) (final : Bool) (ts : Rat) (s : St) (m : Member) :
    QuietExt s.out (visit c final ts s m).out :=
  (quiet_respects m).visit c final ts (fun a _ s typ val => setVar_quiet c s ts typ ⟨"", a.target⟩ val true rfl) s

def Sample.obs (ts : Rat) (x : Sample) : Out := .obs ts x.typ x.v x.val

/-- the signal observations a round must forward for its samples, in order -/
def fwd (ts : Rat) (samples : List Sample) : List Out :=
  (samples.filter fun x => !x.val.isNil && x.v.actor != "").map (Sample.obs ts)

/-- the forwarding loop at the head of `checkEvent`: one item per non-nil sample, consed in order -/
theorem forward_out (c : Cfg) (ts : Rat) (samples : List Sample) (st : St) :
    (samples.foldl (fun st x =>
        if x.val.isNil then st else
        (setVar c st ts x.typ x.v x.val false).emit (.obs ts x.typ x.v x.val)) st).out =
      ((samples.filter fun x => !x.val.isNil).map (Sample.obs ts)).reverse ++ st.out := by
  induction samples generalizing st with
  | nil => rfl
  | cons x xs ih =>
    simp only [List.foldl_cons]
    rw [ih]
    by_cases hx : x.val.isNil
    · simp [hx]
    · simp [hx, St.emit, setVar_false_out, Sample.obs]

/-- the three computed variables of a round emit no signal observation -/
theorem beginRound_out (c : Cfg) (ts : Rat) (samples : List Sample) (s : St) :
    ∃ pre, sigObs pre = [] ∧
      (beginRound c ts samples s).out =
        ((samples.filter fun x => !x.val.isNil).map (Sample.obs ts)).reverse ++ (pre ++ s.out) := by
  unfold beginRound
  extract_lets s0 s1 s2 moodt s3
  rw [forward_out]
  obtain ⟨pre, hpre, hq⟩ : QuietExt s.out s3.out :=
    ((setVar_quiet c s0 ts _ ⟨"", "t"⟩ _ true rfl).trans (setVar_quiet c s1 ts _ ⟨"", "mood"⟩ _ true rfl)).trans
      (setVar_quiet c s2 ts _ ⟨"", "moodt"⟩ _ true rfl)
  exact ⟨pre, hq, congrArg (_ ++ ·) hpre⟩

theorem sigObs_forwarded (ts : Rat) (samples : List Sample) :
    sigObs ((samples.filter fun x => !x.val.isNil).map (Sample.obs ts)).reverse =
      ((samples.filter fun x => !x.val.isNil && x.v.actor != "").map (Sample.obs ts)).reverse := by
  unfold sigObs
  rw [List.filter_reverse, List.filter_map, List.filter_filter]
  rw [List.filter_congr fun x _ => Bool.and_comm ..]; rfl

/-- `checkEvent`: what is added to the output is `post ++ forwarded samples ++ pre`, with no signal
observation in `pre` (computed variables `t`, `mood`, `moodt`) nor in `post` (the auditors) -/
theorem round_out (c : Cfg) (final : Bool) (ts : Rat) (samples : List Sample) (s : St)
    (h : s.abort = none) :
    ∃ pre post, sigObs pre = [] ∧ sigObs post = [] ∧
      (round c final ts samples s).out =
        post ++ (((samples.filter fun x => !x.val.isNil).map (Sample.obs ts)).reverse ++ (pre ++ s.out)) := by
  obtain ⟨pre, hpre, hb⟩ := beginRound_out c ts samples s
  obtain ⟨post, hv, hpost⟩ := quiet_frame.fold c final ts c.members
    (fun m _ s _ => visit_quiet c final ts s m) (beginRound c ts samples s)
  refine ⟨pre, post, hpre, hpost, ?_⟩
  rw [round_ok h, hv, hb]

theorem sigObs_round (c : Cfg) (final : Bool) (ts : Rat) (samples : List Sample) (s : St) :
    sigObs (round c final ts samples s).out =
      (if s.abort.isSome then [] else (fwd ts samples).reverse) ++ sigObs s.out := by
  cases h : s.abort with
  | some a => rw [round_aborted c final ts samples s (Option.isSome_of_eq_some h)]; simp
  | none =>
    obtain ⟨pre, post, hpre, hpost, ho⟩ := round_out c final ts samples s h
    rw [ho]
    simp [sigObs_append, hpre, hpost, sigObs_forwarded, fwd]

def Ev.fwd : Ev → List Out
  | .mood _ _ => []
  | .sig ts xs => Aud.fwd ts xs

theorem sigObs_round_nil (c : Cfg) (final : Bool) (ts : Rat) (s : St) :
    sigObs (round c final ts [] s).out = sigObs s.out := by
  rw [sigObs_round]
  show (if _ then [] else []) ++ _ = _
  rw [ite_self]; rfl

theorem sigObs_stepEv (c : Cfg) (s : St) (e : Ev) :
    sigObs (stepEv c s e).out = (if s.abort.isSome then [] else e.fwd.reverse) ++ sigObs s.out := by
  cases e with
  | sig ts xs => exact sigObs_round c false ts xs s
  | mood ts m =>
    show _ = (if _ then [] else []) ++ _
    rw [ite_self]
    exact stepEv_mood_cases (P := fun r => sigObs r.out = _) c s ts m rfl (sigObs_round_nil ..)
      ((sigObs_round_nil ..).trans (sigObs_round_nil ..))

/-- the events are processed up to the first abort; each processed event forwards its samples -/
theorem sigObs_events (c : Cfg) (s : St) (evs : List Ev) :
    ∃ k, k ≤ evs.length ∧
      (sigObs (evs.foldl (stepEv c) s).out).reverse = (sigObs s.out).reverse ++ (evs.take k).flatMap Ev.fwd ∧
      ((evs.foldl (stepEv c) s).abort = none → k = evs.length) := by
  induction evs generalizing s with
  | nil => exact ⟨0, Nat.le_refl _, by simp, fun _ => rfl⟩
  | cons e es ih =>
    cases h : s.abort with
    | some a =>
      rw [foldl_stepEv_aborted c s _ (Option.isSome_of_eq_some h), h]
      exact ⟨0, Nat.zero_le _, by simp, nofun⟩
    | none =>
      obtain ⟨k, hk, ho, ha⟩ := ih (stepEv c s e)
      refine ⟨k + 1, by simpa using hk, ?_, fun hn => by simpa using ha hn⟩
      simp only [List.foldl_cons, List.take_succ_cons, List.flatMap_cons]
      rw [ho, sigObs_stepEv]
      simp [h]

theorem sigObs_start (c : Cfg) : sigObs (start c).out = [] :=
  sigObs_round_nil ..

end Shk.Aud
