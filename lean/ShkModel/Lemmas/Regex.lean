import ShkModel.Model.Regex
/-! The matcher `ms` against the language `M`: the ways it lists are exactly the matches (`ms_sound`, `ms_complete`),
every capture register was written by a group whose body matched that span (`ms_caps`), and `findFrom` is leftmost-first
(`findFrom_spec`).  Spans, soundness and captures meet the loop (`Star`, `starN`) through a reflexive transitive
relation that a single step respects (`Star.rel`, `starN_rel`); completeness inducts on the `Star` derivation
itself (`starN_complete`).  Beside that, the literal a regexp begins with or
consists of (`LitAt`, `splitLit_M`), from which the keyword theorems read the keyword of a clause, and group numbers:
one that is not reused names one group (`group_unique`). -/
namespace Shk.Re

theorem Star.single {P : Nat → Nat → Prop} {i j : Nat} (h : P i j) : Star P i j :=
  .cons h (.nil j)

theorem Star.trans {P : Nat → Nat → Prop} {i k j : Nat} (h1 : Star P i k) (h2 : Star P k j) :
    Star P i j := by
  induction h1 with
  | nil _ => exact h2
  | cons h _ ih => exact .cons h (ih h2)

theorem Star.rel {P R : Nat → Nat → Prop} (hr : ∀ a, R a a) (ht : ∀ a b c, R a b → R b c → R a c)
    (hP : ∀ a b, P a b → R a b) {i j : Nat} (h : Star P i j) : R i j := by
  induction h with
  | nil _ => exact hr _
  | cons h _ ih => exact ht _ _ _ (hP _ _ h) ih

theorem chrAt_lt {s : List Char} {p : Nat → Bool} {i j : Nat} (h : chrAt s p i j) :
    j = i + 1 ∧ i < s.length := by
  obtain ⟨hj, c, hc, _⟩ := h
  exact ⟨hj, (List.getElem?_eq_some_iff.mp hc).1⟩

/-- `j` lies at or after `i`, and inside `[0, L]` if `i` does: what a match in a string of length `L` does to the
position, in a form that composes -/
def Fwd (L i j : Nat) : Prop := i ≤ j ∧ (i ≤ L → j ≤ L)

theorem Fwd.refl (L i : Nat) : Fwd L i i := ⟨Nat.le_refl _, id⟩

theorem Fwd.trans {L i k j : Nat} (h1 : Fwd L i k) (h2 : Fwd L k j) : Fwd L i j :=
  ⟨Nat.le_trans h1.1 h2.1, fun h => h2.2 (h1.2 h)⟩

theorem M_span (s : List Char) : ∀ (r : Re) (i j : Nat), M s r i j → Fwd s.length i j := by
  intro r
  induction r with
  | chr _ | cls _ | any | anyNoNL =>
    intro i j h
    obtain ⟨rfl, hlt⟩ := chrAt_lt h
    exact ⟨Nat.le_succ _, fun _ => hlt⟩
  | cat a b iha ihb => intro i j ⟨k, h1, h2⟩; exact (iha _ _ h1).trans (ihb _ _ h2)
  | alt a b iha ihb => intro i j h; exact h.elim (iha _ _) (ihb _ _)
  | star g r ih => intro i j h; exact Star.rel (Fwd.refl _) (fun _ _ _ => Fwd.trans) ih h
  | plus g r ih =>
    intro i j ⟨k, h1, h2⟩
    exact (ih _ _ h1).trans (Star.rel (Fwd.refl _) (fun _ _ _ => Fwd.trans) ih h2)
  | opt g r ih => intro i j h; exact h.elim (fun e => e ▸ .refl _ _) (ih _ _)
  | group _ _ r ih => exact ih
  | empty => intro i j (h : i = j); exact h ▸ .refl _ _
  | bot | eot => intro i j h; exact h.1 ▸ .refl _ _

theorem M_le {s : List Char} {r : Re} {i j : Nat} (h : M s r i j) : i ≤ j := (M_span s r i j h).1

theorem M_bound {s : List Char} {r : Re} {i j : Nat} (h : M s r i j) (hi : i ≤ s.length) :
    j ≤ s.length := (M_span s r i j h).2 hi

theorem M_consumes (s : List Char) : ∀ (r : Re) (i j : Nat), nullable r = false → M s r i j → i < j := by
  intro r
  induction r with
  | chr _ | cls _ | any | anyNoNL =>
    intro i j _ h
    obtain ⟨rfl, _⟩ := chrAt_lt h
    exact Nat.lt_succ_self _
  | cat a b iha ihb =>
    intro i j hn ⟨k, h1, h2⟩
    rcases Bool.and_eq_false_iff.mp hn with hn | hn
    · exact Nat.lt_of_lt_of_le (iha _ _ hn h1) (M_le h2)
    · exact Nat.lt_of_le_of_lt (M_le h1) (ihb _ _ hn h2)
  | alt a b iha ihb =>
    intro i j hn h
    have hn := Bool.or_eq_false_iff.mp hn
    exact h.elim (iha _ _ hn.1) (ihb _ _ hn.2)
  | plus g r ih =>
    intro i j hn ⟨k, h1, h2⟩
    exact Nat.lt_of_lt_of_le (ih _ _ hn h1) (M_le (r := .star g r) h2)
  | group _ _ r ih => exact ih
  | empty | star _ _ | opt _ _ | bot | eot => intro i j hn; cases hn

theorem M_endsEot (s : List Char) : ∀ (r : Re) (i j : Nat), endsEot r = true → M s r i j → j = s.length := by
  intro r
  induction r with
  | cat a b _ ihb => intro i j he ⟨k, _, h2⟩; exact ihb _ _ he h2
  | eot => intro i j _ (h : i = j ∧ i = s.length); exact h.1 ▸ h.2
  | _ => intro i j he; cases he

/-- the code points `w` stand in `s` from position `i` on -/
def LitAt (s : List Char) : List Nat → Nat → Prop
  | [], _ => True
  | c :: cs, i => (∃ ch, s[i]? = some ch ∧ ch.toNat = c) ∧ LitAt s cs (i + 1)

/-- position `k` of `s` holds a blank (`\s`) -/
def BlankAt (s : List Char) (k : Nat) : Prop := ∃ c, s[k]? = some c ∧ inRanges WS c.toNat = true
/-- position `k` of `s` holds a character that is not a blank (`\S`) -/
def WordCharAt (s : List Char) (k : Nat) : Prop := ∃ c, s[k]? = some c ∧ inRanges NS c.toNat = true

theorem LitAt_iff (s : List Char) : ∀ (w : List Nat) (i : Nat),
    LitAt s w i ↔ ((s.drop i).map Char.toNat).take w.length = w := by
  intro w
  induction w with
  | nil => intro i; simp [LitAt]
  | cons c cs ih =>
    intro i
    simp only [LitAt, ih, List.length_cons]
    cases hc : s[i]? with
    | none =>
      have : s.length ≤ i := by simpa using hc
      simp [List.drop_eq_nil_of_le this]
    | some ch =>
      obtain ⟨hlt, hget⟩ := List.getElem?_eq_some_iff.mp hc
      rw [List.drop_eq_getElem_cons hlt, hget]
      simp

theorem M_cat_chr {s : List Char} {c : Nat} {b : Re} {i j : Nat} :
    M s (.cat (.chr c) b) i j ↔ (∃ ch, s[i]? = some ch ∧ ch.toNat = c) ∧ M s b (i + 1) j := by
  simp only [M, chrAt, beq_iff_eq]
  exact ⟨fun ⟨_, ⟨rfl, h⟩, hb⟩ => ⟨h, hb⟩, fun ⟨h, hb⟩ => ⟨_, ⟨rfl, h⟩, hb⟩⟩

theorem splitLit_M (s : List Char) (r : Re) : ∀ (i j : Nat),
    M s r i j ↔ LitAt s (splitLit r).1 i ∧ M s (splitLit r).2 (i + (splitLit r).1.length) j := by
  fun_induction splitLit r with
  | case1 c b ih =>
    intro i j
    simp only [M_cat_chr, ih, LitAt, List.length_cons, and_assoc]
    rw [show i + 1 + (splitLit b).1.length = i + ((splitLit b).1.length + 1) by omega]
  | case2 r _ => intro i j; exact ⟨fun h => ⟨trivial, h⟩, fun h => h.2⟩

theorem litBody_splitLit (r : Re) : ∀ {w : List Nat}, litBody r = some w → splitLit r = (w, .eot) := by
  fun_induction litBody r with
  | case1 => intro w h; cases h; rfl
  | case2 c b ih =>
    intro w h
    obtain ⟨w', hw', rfl⟩ := Option.map_eq_some_iff.mp h
    simp only [splitLit, ih hw']
  | case3 => intro w h; cases h

theorem M_litPrefix (s : List Char) (r : Re) : ∀ (i j : Nat), M s r i j → LitAt s (litPrefix r) i := by
  fun_induction litPrefix r with
  | case1 c => intro i j ⟨_, ch, hch, hp⟩; exact ⟨⟨ch, hch, beq_iff_eq.mp hp⟩, trivial⟩
  | case2 b ih => intro i j ⟨k, h1, h2⟩; exact h1.1 ▸ ih _ _ h2
  | case3 c b ih => intro i j h; exact ⟨(M_cat_chr.mp h).1, ih _ _ (M_cat_chr.mp h).2⟩
  | case4 idx nm a b ih => intro i j ⟨k, h1, _⟩; exact ih _ _ h1
  | case5 idx nm a ih => exact ih
  | case6 => intro i j _; trivial

theorem map_toNat_inj {s w : List Char} : s.map Char.toNat = w.map Char.toNat ↔ s = w :=
  List.map_inj_right fun _ _ hab => Char.ext (UInt32.toNat_inj.mp hab)

theorem matches_isLiteral {r : Re} {w : List Char} (h : isLiteral r = some (w.map Char.toNat))
    (s : List Char) : Matches r s ↔ s = w := by
  revert h
  fun_cases isLiteral r with
  | case2 => nofun
  | case1 r' =>
    intro hb
    have hs := splitLit_M s r' 0 s.length
    rw [litBody_splitLit r' hb, LitAt_iff] at hs
    simp only [List.length_map, List.drop_zero, Nat.zero_add, M] at hs
    constructor
    · rintro ⟨k, ⟨rfl, _⟩, hm⟩
      obtain ⟨h1, h2, _⟩ := hs.mp hm
      rw [h2, ← List.length_map Char.toNat, List.take_length] at h1
      exact map_toNat_inj.mp h1
    · rintro rfl
      exact ⟨0, ⟨rfl, rfl⟩, hs.mpr ⟨by rw [← List.length_map Char.toNat, List.take_length], rfl, rfl⟩⟩

/-- `n` is a parameter of its own so that a caller's `by decide` evaluates `w.length` in the kernel together with
`litPrefix r`; unifying `s.take w.length` with `s.take 4` would have the elaborator evaluate it -/
theorem matches_litPrefix {r : Re} {w s : List Char} {n : Nat}
    (hw : litPrefix r = w.map Char.toNat ∧ w.length = n) (h : Matches r s) : s.take n = w := by
  have := (LitAt_iff s _ 0).mp (M_litPrefix s r _ _ h)
  rw [hw.1, List.length_map, hw.2, List.drop_zero, ← List.map_take] at this
  exact map_toNat_inj.mp this

theorem star_chr_span {s : List Char} {p : Nat → Bool} {a b : Nat} (h : Star (chrAt s p) a b) :
    a ≤ b ∧ ∀ k, a ≤ k → k < b → ∃ c, s[k]? = some c ∧ p c.toNat = true := by
  induction h with
  | nil i => exact ⟨Nat.le_refl _, fun k h1 h2 => by omega⟩
  | @cons i k j h _ ih =>
    obtain ⟨hk, c, hc, hp⟩ := h
    refine ⟨by omega, fun m h1 h2 => ?_⟩
    by_cases hm : m = i
    · subst hm; exact ⟨c, hc, hp⟩
    · exact ih.2 m (by omega) h2

theorem plus_cls_span {s : List Char} {g : Bool} {rs : List (Nat × Nat)} {a b : Nat}
    (h : M s (.plus g (.cls rs)) a b) :
    a < b ∧ ∀ k, a ≤ k → k < b → ∃ c, s[k]? = some c ∧ inRanges rs c.toNat = true := by
  obtain ⟨k, h1, h2⟩ := h
  have := chrAt_lt h1
  have := star_chr_span (.cons h1 h2)
  exact ⟨by have := M_le (r := .star g (.cls rs)) h2; omega, this.2⟩

theorem plus_cls_head {s : List Char} {g : Bool} {rs : List (Nat × Nat)} {x : Re} {a b : Nat}
    (h : M s (.cat (.plus g (.cls rs)) x) a b) : ∃ c, s[a]? = some c ∧ inRanges rs c.toNat = true := by
  obtain ⟨_, h1, _⟩ := h
  exact (plus_cls_span h1).2 a (Nat.le_refl _) (plus_cls_span h1).1

theorem mem_starN_succ {step : St → List St} {g : Bool} {n : Nat} {st t : St} :
    t ∈ starN step g (n + 1) st ↔
      t = st ∨ ∃ u, (u ∈ step st ∧ st.pos < u.pos) ∧ t ∈ starN step g n u := by
  cases g <;> simp [starN, List.mem_flatMap, List.mem_filter, or_comm]

theorem self_mem_starN (step : St → List St) (g : Bool) (n : Nat) (st : St) :
    st ∈ starN step g n st := by
  cases n with
  | zero => exact List.mem_singleton.mpr rfl
  | succ n => exact mem_starN_succ.mpr (.inl rfl)

theorem starN_rel {R : St → St → Prop} (hr : ∀ a, R a a) (ht : ∀ a b c, R a b → R b c → R a c)
    {step : St → List St} (hs : ∀ u t, t ∈ step u → R u t) {g : Bool} :
    ∀ {n : Nat} {st t : St}, t ∈ starN step g n st → R st t := by
  intro n
  induction n with
  | zero => intro st t h; simp [starN] at h; subst h; exact hr _
  | succ n ih =>
    intro st t h
    rcases mem_starN_succ.mp h with h | ⟨u, ⟨hu, _⟩, htu⟩
    · subst h; exact hr _
    · exact ht _ _ _ (hs _ _ hu) (ih htu)

theorem starN_sound {P : Nat → Nat → Prop} {step : St → List St}
    (hs : ∀ u t, t ∈ step u → P u.pos t.pos) {g : Bool} {n : Nat} {st t : St}
    (h : t ∈ starN step g n st) : Star P st.pos t.pos :=
  starN_rel (R := fun a b => Star P a.pos b.pos) (fun _ => .nil _) (fun _ _ _ => Star.trans)
    (fun u t h => Star.single (hs u t h)) h

theorem starN_complete {P : Nat → Nat → Prop} {L : Nat} {step : St → List St} (g : Bool)
    (hP : ∀ a b, P a b → Fwd L a b)
    (hc : ∀ (u : St) (b : Nat), P u.pos b → u.pos ≤ L → ∃ t ∈ step u, t.pos = b) {i j : Nat}
    (h : Star P i j) :
    ∀ (n : Nat) (st : St), st.pos = i → i ≤ L → L ≤ i + n → ∃ t ∈ starN step g n st, t.pos = j := by
  induction h with
  | nil i => intro n st hst _ _; exact ⟨st, self_mem_starN _ _ _ _, hst⟩
  | @cons i k j hik _ ih =>
    intro n st hst hi hn
    subst hst
    obtain ⟨hle, hk⟩ := hP _ _ hik
    rcases Nat.eq_or_lt_of_le hle with rfl | hlt
    · -- a piece that consumed nothing costs no fuel: the loop need not follow it
      exact ih n st rfl hi hn
    · cases n with
      | zero => exact absurd (Nat.lt_of_lt_of_le hlt (hk hi)) (Nat.not_lt.mpr hn)
      | succ m =>
        obtain ⟨u, hu, rfl⟩ := hc st k hik hi
        obtain ⟨t, ht, htpos⟩ := ih m u rfl (hk hi) (by omega)
        exact ⟨t, mem_starN_succ.mpr (.inr ⟨u, ⟨hu, hlt⟩, ht⟩), htpos⟩

theorem mem_stepChar {s : List Char} {p : Nat → Bool} {st t : St} :
    t ∈ stepChar s p st ↔ chrAt s p st.pos t.pos ∧ t.caps = st.caps := by
  obtain ⟨j, c⟩ := t
  unfold stepChar chrAt
  cases hc : s[st.pos]? with
  | none => simp
  | some x => by_cases hp : p x.toNat = true <;> simp [hp]

theorem mem_ms_empty {s : List Char} {st t : St} : t ∈ ms s .empty st ↔ t = st := by simp [ms]

theorem mem_ms_cat {s : List Char} {a b : Re} {st t : St} :
    t ∈ ms s (.cat a b) st ↔ ∃ u ∈ ms s a st, t ∈ ms s b u := by simp [ms]

theorem mem_ms_alt {s : List Char} {a b : Re} {st t : St} :
    t ∈ ms s (.alt a b) st ↔ t ∈ ms s a st ∨ t ∈ ms s b st := by simp [ms]

/-- `r+` is `r r*` -/
theorem mem_ms_plus {s : List Char} {g : Bool} {r : Re} {st t : St} :
    t ∈ ms s (.plus g r) st ↔ ∃ u ∈ ms s r st, t ∈ ms s (.star g r) u :=
  mem_ms_cat (a := r) (b := .star g r)

theorem mem_ms_opt {s : List Char} {g : Bool} {r : Re} {st t : St} :
    t ∈ ms s (.opt g r) st ↔ t = st ∨ t ∈ ms s r st := by cases g <;> simp [ms, or_comm]

theorem mem_ms_group {s : List Char} {i : Nat} {nm : Option String} {r : Re} {st t : St} :
    t ∈ ms s (.group i nm r) st ↔ ∃ u ∈ ms s r st, t = { u with caps := (i, (st.pos, u.pos)) :: u.caps } := by
  simp [ms, eq_comm]

theorem mem_ms_bot {s : List Char} {st t : St} : t ∈ ms s .bot st ↔ st.pos = 0 ∧ t = st := by
  by_cases h : st.pos = 0 <;> simp [ms, h]

theorem mem_ms_eot {s : List Char} {st t : St} : t ∈ ms s .eot st ↔ st.pos = s.length ∧ t = st := by
  by_cases h : st.pos = s.length <;> simp [ms, h]

theorem ms_sound (s : List Char) : ∀ (r : Re) (st t : St), t ∈ ms s r st → M s r st.pos t.pos := by
  intro r
  induction r with
  | empty => intro st t h; exact mem_ms_empty.mp h ▸ rfl
  | chr _ | cls _ | any | anyNoNL => intro st t h; exact (mem_stepChar.mp h).1
  | cat a b iha ihb =>
    intro st t h
    obtain ⟨u, hu, ht⟩ := mem_ms_cat.mp h
    exact ⟨u.pos, iha _ _ hu, ihb _ _ ht⟩
  | alt a b iha ihb => intro st t h; exact (mem_ms_alt.mp h).imp (iha _ _) (ihb _ _)
  | star g r ih => intro st t h; exact starN_sound ih h
  | plus g r ih =>
    intro st t h
    obtain ⟨u, hu, ht⟩ := mem_ms_plus.mp h
    exact ⟨u.pos, ih _ _ hu, starN_sound ih ht⟩
  | opt g r ih => intro st t h; exact (mem_ms_opt.mp h).imp (fun e => by rw [e]) (ih _ _)
  | group i nm r ih =>
    intro st t h
    obtain ⟨u, hu, rfl⟩ := mem_ms_group.mp h
    exact ih st u hu
  | bot => intro st t h; obtain ⟨h0, rfl⟩ := mem_ms_bot.mp h; exact ⟨rfl, h0⟩
  | eot => intro st t h; obtain ⟨h0, rfl⟩ := mem_ms_eot.mp h; exact ⟨rfl, h0⟩

theorem ms_le {s : List Char} {r : Re} {st t : St} (h : t ∈ ms s r st) : st.pos ≤ t.pos :=
  M_le (ms_sound s r st t h)

theorem ms_bound {s : List Char} {r : Re} {st t : St} (h : t ∈ ms s r st) (hi : st.pos ≤ s.length) :
    t.pos ≤ s.length :=
  M_bound (ms_sound s r st t h) hi

theorem ms_complete (s : List Char) : ∀ (r : Re) (st : St) (j : Nat), M s r st.pos j →
    st.pos ≤ s.length → ∃ t ∈ ms s r st, t.pos = j := by
  intro r
  induction r with
  | empty => intro st j h _; exact ⟨st, mem_ms_empty.mpr rfl, h⟩
  | chr _ | cls _ | any | anyNoNL => intro st j h _; exact ⟨⟨j, st.caps⟩, mem_stepChar.mpr ⟨h, rfl⟩, rfl⟩
  | cat a b iha ihb =>
    intro st j ⟨k, h1, h2⟩ hi
    obtain ⟨u, hu, rfl⟩ := iha st k h1 hi
    obtain ⟨t, ht, htpos⟩ := ihb u j h2 (ms_bound hu hi)
    exact ⟨t, mem_ms_cat.mpr ⟨u, hu, ht⟩, htpos⟩
  | alt a b iha ihb =>
    intro st j h hi
    rcases h with h | h
    · obtain ⟨t, ht, htpos⟩ := iha st j h hi
      exact ⟨t, mem_ms_alt.mpr (.inl ht), htpos⟩
    · obtain ⟨t, ht, htpos⟩ := ihb st j h hi
      exact ⟨t, mem_ms_alt.mpr (.inr ht), htpos⟩
  | star g r ih =>
    intro st j h hi
    exact starN_complete g (M_span s r) ih h _ st rfl hi (Nat.le_of_eq (Nat.add_sub_of_le hi).symm)
  | plus g r ih =>
    intro st j ⟨k, h1, h2⟩ hi
    obtain ⟨u, hu, rfl⟩ := ih st k h1 hi
    obtain ⟨t, ht, htpos⟩ := starN_complete g (M_span s r) ih h2 _ u rfl (ms_bound hu hi)
      (Nat.le_of_eq (Nat.add_sub_of_le (ms_bound hu hi)).symm)
    exact ⟨t, mem_ms_plus.mpr ⟨u, hu, ht⟩, htpos⟩
  | opt g r ih =>
    intro st j h hi
    rcases h with h | h
    · exact ⟨st, mem_ms_opt.mpr (.inl rfl), h⟩
    · obtain ⟨t, ht, htpos⟩ := ih st j h hi
      exact ⟨t, mem_ms_opt.mpr (.inr ht), htpos⟩
  | group idx nm r ih =>
    intro st j h hi
    obtain ⟨t, ht, htpos⟩ := ih st j h hi
    exact ⟨_, mem_ms_group.mpr ⟨t, ht, rfl⟩, htpos⟩
  | bot => intro st j h _; exact ⟨st, mem_ms_bot.mpr ⟨h.2, rfl⟩, h.1⟩
  | eot => intro st j h _; exact ⟨st, mem_ms_eot.mpr ⟨h.2, rfl⟩, h.1⟩

theorem Occ.refl (r : Re) : Occ r r := by
  cases r with
  | cat | alt | star | plus | opt | group => exact .inl rfl
  | _ => exact rfl

/-- where an entry of the registers comes from: a group of the regexp wrote it when its body had
matched exactly that span, which ends at `hi` or before -/
def CapOk (s : List Char) (r : Re) (hi : Nat) (e : Nat × (Nat × Nat)) : Prop :=
  e.2.2 ≤ hi ∧ ∃ nm q, Occ (.group e.1 nm q) r ∧ M s q e.2.1 e.2.2

/-- from `a` to `b` the position does not go back, and every register `b` holds beyond those of `a` is accounted for -/
def CapRel (s : List Char) (r : Re) (a b : St) : Prop :=
  a.pos ≤ b.pos ∧ ∀ e ∈ b.caps, e ∈ a.caps ∨ CapOk s r b.pos e

theorem CapRel.refl {s : List Char} {r : Re} (a : St) : CapRel s r a a :=
  ⟨Nat.le_refl _, fun _ he => .inl he⟩

theorem CapRel.trans {s : List Char} {r : Re} {a b c : St} (h1 : CapRel s r a b) (h2 : CapRel s r b c) :
    CapRel s r a c :=
  ⟨Nat.le_trans h1.1 h2.1, fun e he => (h2.2 e he).elim
    (fun hb => (h1.2 e hb).imp_right fun ⟨hle, hw⟩ => ⟨Nat.le_trans hle h2.1, hw⟩) .inr⟩

theorem CapRel.mono {s : List Char} {r : Re} (r' : Re) (h : ∀ q, Occ q r → Occ q r') {a b : St}
    (hab : CapRel s r a b) : CapRel s r' a b :=
  ⟨hab.1, fun e he => (hab.2 e he).imp_right fun ⟨hle, nm, q, ho, hm⟩ => ⟨hle, nm, q, h _ ho, hm⟩⟩

theorem starN_caps {s : List Char} {r : Re} (r' : Re) (ho : ∀ q, Occ q r → Occ q r')
    (ih : ∀ st t, t ∈ ms s r st → CapRel s r st t) {g : Bool} {n : Nat} {st t : St}
    (h : t ∈ starN (ms s r) g n st) : CapRel s r' st t :=
  starN_rel CapRel.refl (fun _ _ _ => CapRel.trans) (fun u t h => (ih u t h).mono r' ho) h

theorem ms_caps (s : List Char) : ∀ (r : Re) (st t : St), t ∈ ms s r st → CapRel s r st t := by
  intro r
  induction r with
  | empty => intro st t h; obtain rfl := mem_ms_empty.mp h; exact .refl _
  | chr _ | cls _ | any | anyNoNL =>
    intro st t h
    exact ⟨ms_le h, fun e he => .inl ((mem_stepChar.mp h).2 ▸ he)⟩
  | cat a b iha ihb =>
    intro st t h
    obtain ⟨u, hu, ht⟩ := mem_ms_cat.mp h
    exact ((iha _ _ hu).mono (.cat a b) fun _ hq => .inr (.inl hq)).trans
      ((ihb _ _ ht).mono (.cat a b) fun _ hq => .inr (.inr hq))
  | alt a b iha ihb =>
    intro st t h
    rcases mem_ms_alt.mp h with h | h
    · exact (iha _ _ h).mono (.alt a b) fun _ hq => .inr (.inl hq)
    · exact (ihb _ _ h).mono (.alt a b) fun _ hq => .inr (.inr hq)
  | star g r ih => intro st t h; exact starN_caps (.star g r) (fun _ hq => .inr hq) ih h
  | plus g r ih =>
    intro st t h
    obtain ⟨u, hu, ht⟩ := mem_ms_plus.mp h
    exact ((ih _ _ hu).mono (.plus g r) fun _ hq => .inr hq).trans
      (starN_caps (.plus g r) (fun _ hq => .inr hq) ih ht)
  | opt g r ih =>
    intro st t h
    rcases mem_ms_opt.mp h with rfl | h
    · exact .refl _
    · exact (ih _ _ h).mono (.opt g r) fun _ hq => .inr hq
  | group i nm r ih =>
    intro st t h
    obtain ⟨u, hu, rfl⟩ := mem_ms_group.mp h
    have hr := (ih _ _ hu).mono (.group i nm r) fun _ hq => .inr hq
    refine ⟨hr.1, fun e he => ?_⟩
    rcases List.mem_cons.mp he with rfl | he
    · exact .inr ⟨Nat.le_refl _, nm, r, Occ.refl _, ms_sound s r _ _ hu⟩
    · exact hr.2 e he
  | bot => intro st t h; obtain ⟨_, rfl⟩ := mem_ms_bot.mp h; exact .refl _
  | eot => intro st t h; obtain ⟨_, rfl⟩ := mem_ms_eot.mp h; exact .refl _

theorem mem_of_lookup {k : Nat} {v : Nat × Nat} {l : Caps} (h : l.lookup k = some v) : (k, v) ∈ l := by
  obtain ⟨l₁, l₂, rfl, _⟩ := List.lookup_eq_some_iff.mp h
  simp

theorem sub_group_mem : ∀ (r : Re) {i : Nat} {nm : Option String} {q : Re},
    Occ (.group i nm q) r → i ∈ groupIdxs r := by
  intro r
  induction r with
  | cat a b iha ihb | alt a b iha ihb =>
    intro i nm q h
    exact List.mem_append.mpr ((Or.resolve_left h nofun).imp iha ihb)
  | star g r ih | plus g r ih | opt g r ih => intro i nm q h; exact ih (Or.resolve_left h nofun)
  | group j nm' r ih =>
    intro i nm q h
    exact List.mem_cons.mpr (Or.imp (fun e => (Re.group.inj e).1) ih h)
  | _ => intro i nm q h; cases h

theorem group_unique : ∀ (r : Re), (groupIdxs r).Nodup → ∀ {i : Nat} {nm nm' : Option String} {q q' : Re},
    Occ (.group i nm q) r → Occ (.group i nm' q') r → nm = nm' ∧ q = q' := by
  intro r
  induction r with
  | cat a b iha ihb | alt a b iha ihb =>
    intro hn i nm nm' q q' h1 h2
    have hn := List.nodup_append.mp hn
    rcases Or.resolve_left h1 nofun with h1 | h1 <;> rcases Or.resolve_left h2 nofun with h2 | h2
    · exact iha hn.1 h1 h2
    · exact absurd rfl (hn.2.2 _ (sub_group_mem a h1) _ (sub_group_mem b h2))
    · exact absurd rfl (hn.2.2 _ (sub_group_mem a h2) _ (sub_group_mem b h1))
    · exact ihb hn.2.1 h1 h2
  | star g r ih | plus g r ih | opt g r ih =>
    intro hn i nm nm' q q' h1 h2
    exact ih hn (Or.resolve_left h1 nofun) (Or.resolve_left h2 nofun)
  | group j nm0 r ih =>
    intro hn i nm nm' q q' h1 h2
    have hn := List.nodup_cons.mp hn
    rcases h1 with h1 | h1 <;> rcases h2 with h2 | h2
    · cases h1; cases h2; exact ⟨rfl, rfl⟩
    · cases h1; exact absurd (sub_group_mem r h2) hn.1
    · cases h2; exact absurd (sub_group_mem r h1) hn.1
    · exact ih hn.2 h1 h2
  | _ => intro _ i nm nm' q q' h1; cases h1

theorem nodup_of_wellNumbered {r : Re} (h : wellNumbered r = true) : (groupIdxs r).Nodup := by
  rw [beq_iff_eq.mp h]
  exact List.nodup_range' 1

theorem find?_eq_head? {α : Type} {p : α → Bool} : ∀ {l : List α}, (∀ x ∈ l, p x = true) → l.find? p = l.head?
  | [], _ => rfl
  | x :: xs, h => by simp [List.find?, h x List.mem_cons_self]

theorem run_some {r : Re} {s : List Char} {c : Captures} (h : run r s = some c) :
    ∃ t ∈ ms s r ⟨0, []⟩, t.pos = s.length ∧ c = spans (ngroups r) 0 t := by
  obtain ⟨t, ht, hc⟩ := Option.map_eq_some_iff.mp h
  have hp := List.find?_some (p := fun t : St => t.pos == s.length) ht
  exact ⟨t, List.mem_of_find?_eq_some ht, beq_iff_eq.mp hp, hc.symm⟩

theorem getElem?_spans_succ (ng start : Nat) (t : St) (i : Nat) :
    (spans ng start t)[i + 1]? = if i < ng then some (t.caps.lookup (i + 1)) else none := by
  simp only [spans, List.getElem?_cons_succ, List.getElem?_map]
  by_cases h : i < ng
  · rw [if_pos h, List.getElem?_range h]; rfl
  · rw [if_neg h, List.getElem?_eq_none (by simpa using h)]; rfl

/-- leftmost-first, the rule `regexp` documents for `FindStringSubmatch` -/
theorem findFrom_spec (s : List Char) (r : Re) : ∀ (n start : Nat),
    (findFrom s r n start = none ∧ ∀ k, start ≤ k → k < start + n → ms s r ⟨k, []⟩ = []) ∨
    ∃ k t, start ≤ k ∧ k < start + n ∧ (∀ k', start ≤ k' → k' < k → ms s r ⟨k', []⟩ = []) ∧
      (ms s r ⟨k, []⟩).head? = some t ∧ findFrom s r n start = some (spans (ngroups r) k t) := by
  intro n
  induction n with
  | zero => intro start; exact .inl ⟨rfl, fun k h1 h2 => absurd h2 (Nat.not_lt.mpr h1)⟩
  | succ n ih =>
    intro start
    cases hh : (ms s r ⟨start, []⟩).head? with
    | some t =>
      exact .inr ⟨start, t, Nat.le_refl _, Nat.lt_add_of_pos_right (Nat.succ_pos n),
        fun _ h1 h2 => absurd h2 (Nat.not_lt.mpr h1), hh, by simp only [findFrom, hh]⟩
    | none =>
      have he : findFrom s r (n + 1) start = findFrom s r n (start + 1) := by simp only [findFrom, hh]
      have h0 : ∀ k, start ≤ k → ¬ start + 1 ≤ k → ms s r ⟨k, []⟩ = [] := fun k h1 h2 => by
        rw [Nat.le_antisymm (Nat.le_of_not_lt h2) h1]; exact List.head?_eq_none_iff.mp hh
      rw [he, Nat.add_comm n 1, ← Nat.add_assoc]
      rcases ih (start + 1) with ⟨h1, h2⟩ | ⟨k, t, h1, h2, h3, h4⟩
      · exact .inl ⟨h1, fun k hk1 hk2 => if h : start + 1 ≤ k then h2 k h hk2 else h0 k hk1 h⟩
      · exact .inr ⟨k, t, Nat.le_of_succ_le h1, h2,
          fun k' hk1 hk2 => if h : start + 1 ≤ k' then h3 k' h hk2 else h0 k' hk1 h, h4⟩

end Shk.Re
