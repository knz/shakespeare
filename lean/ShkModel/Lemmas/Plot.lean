import ShkModel.Model.Plot
import ShkModel.Lemmas.Order
/-! C19: every loop of `plot.go` is the filter / map / numbering the property talks about; the time range of
`result.go` lies around every instant it was given; the search for the repeated act as a fold; the mood periods
that `audit.go` records cover every instant at which a mood holds. -/
namespace Shk.Plot

theorem widenLo_eq (lo hi : Rat) : widenLo lo hi = lo - (hi - lo) / 20 := by
  simp only [widenLo]; grind only

theorem widenHi_eq (lo hi : Rat) : widenHi lo hi = hi + (hi - lo) / 20 := by
  simp only [widenHi]; grind only

-- Std's lemmas at `Rat`, the order instances found once (for the uses with hypotheses as arguments, here and in C19)
theorem lt_of_lt_of_le {a b c : Rat} (h₁ : a < b) (h₂ : b ≤ c) : a < c := Std.lt_of_lt_of_le h₁ h₂
theorem lt_of_le_of_lt {a b c : Rat} (h₁ : a ≤ b) (h₂ : b < c) : a < c := Std.lt_of_le_of_lt h₁ h₂

theorem widen_le {lo hi : Rat} (h : lo ≤ hi) : widenLo lo hi ≤ lo ∧ hi ≤ widenHi lo hi := by
  unfold widenLo widenHi; grind only

theorem widen_lt {lo hi : Rat} (h : lo < hi) : widenLo lo hi < lo ∧ hi < widenHi lo hi := by
  unfold widenLo widenHi; grind only

theorem widen_reversed {lo hi : Rat} (h : hi < lo) : widenHi lo hi < widenLo lo hi := by
  unfold widenLo widenHi; grind only

theorem eventCount_cons (w : Watched) (ws : List Watched) :
    eventCount (w :: ws) = (if w.isEvent then 1 else 0) + eventCount ws := by
  rw [eventCount, List.filter_cons]
  cases w.isEvent
  · exact (Nat.zero_add _).symm
  · exact Nat.add_comm _ 1

theorem curvesLoop_eq (ws : List Watched) (k n : Nat) (plots : List Curve) :
    curvesLoop ws (k + 1) n plots =
      (plots ++ specCurves k (ws.filter (·.hasData)), n + eventCount (ws.filter (·.hasData))) := by
  induction ws generalizing k n plots with
  | nil => exact Prod.ext (List.append_nil _).symm rfl
  | cons w ws ih =>
    obtain ⟨a, s, kd, d⟩ := w
    cases d with
    | false => exact ih k n plots
    | true =>
      cases kd with
      | event =>
        refine (ih (k + 1) (n + 1) _).trans (Prod.ext (List.append_assoc _ _ _) ?_)
        show n + 1 + _ = n + eventCount (_ :: _)
        rw [eventCount_cons, Nat.add_assoc]; rfl
      | scalar =>
        refine (ih k n _).trans (Prod.ext (List.append_assoc _ _ _) ?_)
        show n + _ = n + eventCount (_ :: _)
        rw [eventCount_cons]; exact congrArg _ (Nat.zero_add _).symm

theorem groupOf_eq (m : Member) : groupOf m = specBox m := by
  have h := curvesLoop_eq m.watched 0 0 []
  simp only [Nat.zero_add, List.nil_append] at h
  simp [groupOf, specBox, withData, h]

theorem specCurves_length (k : Nat) (ws : List Watched) : (specCurves k ws).length = ws.length := by
  induction ws generalizing k with
  | nil => rfl
  | cons w ws ih => simp [specCurves, ih]

theorem specCurves_get (k : Nat) (ws : List Watched) (i : Nat) (h : i < ws.length) :
    (specCurves k ws)[i]'(by rw [specCurves_length]; exact h) =
      curveOf ws[i] (k + eventCount (ws.take i)) := by
  induction ws generalizing k i with
  | nil => simp at h
  | cons w ws ih =>
    cases i with
    | zero => simp [specCurves, eventCount]
    | succ i =>
      simp only [specCurves, List.getElem_cons_succ, List.take_succ_cons]
      have hk : (if w.isEvent then k + 1 else k) = k + if w.isEvent then 1 else 0 := by cases w.isEvent <;> rfl
      rw [ih _ i (by simpa using h), eventCount_cons, hk, Nat.add_assoc]

theorem specCurves_no_audit (k : Nat) (ws : List Watched) :
    Curve.faces ∉ specCurves k ws ∧ Curve.verdicts ∉ specCurves k ws := by
  induction ws generalizing k with
  | nil => simp [specCurves]
  | cons w ws ih =>
    obtain ⟨a, s, kd, d⟩ := w
    cases kd <;> simp [specCurves, curveOf, ih]

theorem groupsLoop_eq (ms : List Member) :
    groupsLoop ms = (ms.filter fun m => m.hasData && !m.onlyHelps).map specBox := by
  induction ms with
  | nil => rfl
  | cons m ms ih =>
    obtain ⟨nm, oh, d, w, au⟩ := m
    cases d <;> cases oh <;> simp [groupsLoop, ih, groupOf_eq]

theorem countActive_eq (as : List Actor) : countActive as = (as.filter (·.hasData)).length := by
  induction as with
  | nil => rfl
  | cons a as ih =>
    obtain ⟨nm, d⟩ := a
    cases d <;> simp [countActive, ih]

theorem lanesLoop_eq (as : List Actor) (n : Nat) :
    lanesLoop as n = ((as.filter (·.hasData)).map (·.name)).zipIdx n := by
  induction as generalizing n with
  | nil => rfl
  | cons a as ih =>
    obtain ⟨nm, d⟩ := a
    cases d <;> simp [lanesLoop, ih]

theorem actLoop_eq (xmin : Rat) (as : List ActStart) :
    actLoop xmin as = (as.filter fun a => xmin ≤ a.ts).map (·.ts) := by
  induction as with
  | nil => rfl
  | cons a as ih =>
    by_cases h : a.ts < xmin
    · have : ¬ xmin ≤ a.ts := Rat.not_le.mpr h
      simp [actLoop, h, this, ih]
    · have : xmin ≤ a.ts := Rat.not_lt.mp h
      simp [actLoop, h, this, ih]

theorem meets_of_instant {p : Period} {xmin xmax x : Rat} (h1 : p.start ≤ x) (h2 : x ≤ p.stop)
    (hx1 : xmin < x) (hx2 : x < xmax) : p.meets xmin xmax = true := by
  rw [Period.meets, Bool.and_eq_true, decide_eq_true_eq, decide_eq_true_eq]
  exact ⟨lt_of_le_of_lt h1 hx2, lt_of_lt_of_le hx1 h2⟩

/-- the `continue` test of the loop is the negation of `meets` -/
theorem skip_iff (p : Period) (xmin xmax : Rat) : (xmax ≤ p.start ∨ p.stop ≤ xmin) ↔ p.meets xmin xmax = false := by
  rw [Period.meets, Bool.and_eq_false_iff, decide_eq_false_iff_not, decide_eq_false_iff_not, Rat.not_lt, Rat.not_lt]

theorem bandsLoop_eq (xmin xmax : Rat) (ps : List Period) :
    bandsLoop xmin xmax ps = (ps.filter fun p => p.meets xmin xmax).map (specBand xmin xmax) := by
  induction ps with
  | nil => rfl
  | cons p ps ih =>
    rw [bandsLoop, ih, ite_le_eq, ite_le_eq, List.filter_cons]
    cases h : p.meets xmin xmax
    · exact if_pos ((skip_iff p xmin xmax).mpr h)
    · exact if_neg fun hs => Bool.noConfusion (h.symm.trans ((skip_iff p xmin xmax).mp hs))

theorem subPlots_eq (f : Facts) (lo hi : Rat) : subPlots f lo hi = specSub f lo hi := by
  have hl : (if countActive f.cast = 0 then [] else lanesLoop f.cast 1) = (activeActors f).zipIdx 1 := by
    rw [countActive_eq, lanesLoop_eq]
    by_cases h : (f.cast.filter (·.hasData)).length = 0
    · have : f.cast.filter (·.hasData) = [] := List.eq_nil_of_length_eq_zero h
      simp [activeActors, this]
    · simp [h, activeActors]
  simp only [subPlots, specSub]
  rw [hl]
  simp only [widenLo_eq, widenHi_eq, groupsLoop_eq, actLoop_eq, bandsLoop_eq,
    countActive_eq, activeActors, List.length_map]
  congr 1
  omega

theorem zoom_eq (f : Facts) {s : Rat} (h : f.repeatStart = some s) :
    (plotModel f).zoom = some (subPlots f s f.maxTime) := by
  simp only [plotModel, h]

theorem sanitize_shape (mn mx : Rat) : (sanitize mn mx).1 ≤ 0 ∧ (sanitize mn mx).1 + 1 ≤ (sanitize mn mx).2 :=
  ⟨(ite_lt_le 0 _).1, (le_ite_lt _ _).2⟩

/-- the sanity checks only widen: swapping, moving the start to 0, an end of at least one second -/
theorem sanitize_covers {mn mx t : Rat} (h1 : mn ≤ t) (h2 : t ≤ mx) :
    (sanitize mn mx).1 ≤ t ∧ t ≤ (sanitize mn mx).2 := by
  have hc : swapHi mn mx ≤ clampHi (swapHi mn mx) := by
    unfold clampHi
    split
    · exact Rat.le_trans (Rat.le_of_lt ‹_›) (by decide)
    · exact Rat.le_refl
  exact ⟨Rat.le_trans (ite_lt_le 0 _).2 (Rat.le_trans (ite_lt_le mx mn).2 h1),
    Rat.le_trans h2 (Rat.le_trans (le_ite_lt mx mn).1 (Rat.le_trans hc (le_ite_lt _ _).1))⟩

theorem expand_fst (r : Option Rat × Option Rat) (u : Rat) :
    (expand r u).1 = some (r.1.elim u fun a => if u < a then u else a) := by
  unfold expand
  cases r.1 with
  | none => rfl
  | some mn => exact (apply_ite some _ _ _).symm

theorem expand_snd (r : Option Rat × Option Rat) (u : Rat) :
    (expand r u).2 = some (r.2.elim u fun b => if b < u then u else b) := by
  unfold expand
  cases r.2 with
  | none => rfl
  | some mx => exact (apply_ite some _ _ _).symm

theorem rangeOf_shape (ts : List Rat) : (rangeOf ts).1 ≤ 0 ∧ (rangeOf ts).1 + 1 ≤ (rangeOf ts).2 := by
  unfold rangeOf
  split
  · exact sanitize_shape _ _
  · split
    · exact sanitize_shape _ _
    · decide +kernel  -- the unreachable `(0, 1)`

theorem rangeOf_covers {ts : List Rat} {t : Rat} (h : t ∈ ts) : (rangeOf ts).1 ≤ t ∧ t ≤ (rangeOf ts).2 := by
  obtain ⟨mn, mx, hmn, hmx, h1, h2⟩ := covers_foldl expand_fst expand_snd (s := (none, none)) (.inl h)
  have hr : ts.foldl expand (none, none) = (some mn, some mx) := Prod.ext hmn hmx
  rw [rangeOf, hr]
  exact sanitize_covers h1 h2

/-- one round of the search loop on the starts of the repeated act only -/
def repStep (st : Option Rat × Option Rat) (t : Rat) : Option Rat × Option Rat := (st.2, some t)

theorem repeatLoop_eq (n : Nat) (as : List ActStart) (st : Option Rat × Option Rat) :
    repeatLoop n as st = (((as.filter fun a => a.num = n).map (·.ts))).foldl repStep st := by
  induction as generalizing st with
  | nil => rfl
  | cons a as ih =>
    by_cases h : a.num = n
    · simp [repeatLoop, h, ih, repStep]
    · simp [repeatLoop, h, ih]

theorem foldl_repStep_concat (l : List Rat) (x : Rat) (st : Option Rat × Option Rat) :
    (l ++ [x]).foldl repStep st = ((l.foldl repStep st).2, some x) := by
  simp [List.foldl_append, repStep]

theorem moodStep_same {st : MoodState} {c : Rat × String} (h : c.2 = st.cur) : moodStep st c = st := if_pos h

theorem moodStep_change {st : MoodState} {c : Rat × String} (h : c.2 ≠ st.cur) :
    moodStep st c = ⟨c.2, c.1, if st.cur ≠ "clear" then st.periods ++ [⟨st.start, c.1, st.cur⟩] else st.periods⟩ :=
  if_neg h

theorem moodStep_cur (st : MoodState) (c : Rat × String) : (moodStep st c).cur = c.2 := by
  by_cases h : c.2 = st.cur
  · rw [moodStep_same h, h]
  · rw [moodStep_change h]

theorem mem_moodStep_periods {st : MoodState} (c : Rat × String) {p : Period} (h : p ∈ st.periods) :
    p ∈ (moodStep st c).periods := by
  by_cases hc : c.2 = st.cur
  · rwa [moodStep_same hc]
  · rw [moodStep_change hc]
    show p ∈ if _ then _ else _
    split
    · exact List.mem_append_left _ h
    · exact h

theorem mem_periods_of_mem {cs : List (Rat × String)} {st : MoodState} {e : Rat} {p : Period} (h : p ∈ st.periods) :
    p ∈ moodFinal (cs.foldl moodStep st) e := by
  induction cs generalizing st with
  | nil =>
    unfold moodFinal
    split
    · exact List.mem_append_left _ h
    · exact h
  | cons c cs ih => exact ih (mem_moodStep_periods c h)

theorem open_period_recorded (cs : List (Rat × String)) (st : MoodState) (x e : Rat)
    (hcur : st.cur ≠ "clear") (hx : x < e) (hlate : ∀ c ∈ cs, x < c.1) :
    ∃ p ∈ moodFinal (cs.foldl moodStep st) e, p.mood = st.cur ∧ p.start = st.start ∧ x < p.stop := by
  induction cs generalizing st with
  | nil => exact ⟨⟨st.start, e, st.cur⟩, by simp [moodFinal, hcur], rfl, rfl, hx⟩
  | cons c cs ih =>
    rw [List.foldl_cons]
    by_cases hc : c.2 = st.cur
    · rw [moodStep_same hc]
      exact ih st hcur fun d hd => hlate d (List.mem_cons_of_mem _ hd)
    · refine ⟨⟨st.start, c.1, st.cur⟩, mem_periods_of_mem ?_, rfl, rfl,
        hlate c List.mem_cons_self⟩
      rw [moodStep_change hc, if_pos hcur]
      exact List.mem_append_right _ (List.mem_singleton_self _)

theorem moodAt_cons_le {cur : String} {c : Rat × String} {cs : List (Rat × String)} {x : Rat} (h : c.1 ≤ x) :
    moodAt cur (c :: cs) x = moodAt c.2 cs x := by
  simp only [moodAt, List.filter_cons, h, decide_true, if_true]
  cases cs.filter (fun c => decide (c.1 ≤ x)) with
  | nil => rfl
  | cons d ds => rw [List.getLast?_cons_cons]; rfl

theorem moodAt_all_late {cur : String} {cs : List (Rat × String)} {x : Rat} (h : ∀ c ∈ cs, x < c.1) :
    moodAt cur cs x = cur := by
  have : cs.filter (fun c => decide (c.1 ≤ x)) = [] :=
    List.filter_eq_nil_iff.mpr fun c hc => by rw [decide_eq_true_eq]; exact Rat.not_le.mpr (h c hc)
  rw [moodAt, this]; rfl

/-- the induction behind `C19.periods_cover`: the state holds the mood of the last change, begun no later than `x` -/
theorem periods_cover_from (cs : List (Rat × String)) (st : MoodState) (x e : Rat)
    (hs : cs.Pairwise fun a b => a.1 ≤ b.1) (hx : x < e)
    (hst : st.cur ≠ "clear" → st.start ≤ x) (hm : moodAt st.cur cs x ≠ "clear") :
    ∃ p ∈ moodFinal (cs.foldl moodStep st) e, p.mood = moodAt st.cur cs x ∧ p.start ≤ x ∧ x < p.stop := by
  induction cs generalizing st with
  | nil =>
    obtain ⟨p, hp, h1, h2, h3⟩ := open_period_recorded [] st x e hm hx nofun
    exact ⟨p, hp, h1, h2 ▸ hst hm, h3⟩
  | cons c cs ih =>
    obtain ⟨hc1, hs'⟩ := List.pairwise_cons.mp hs
    by_cases hle : c.1 ≤ x
    · rw [moodAt_cons_le hle, ← moodStep_cur st c] at hm ⊢
      refine ih (moodStep st c) hs' (fun h => ?_) hm
      by_cases hc : c.2 = st.cur
      · rw [moodStep_same hc] at h ⊢; exact hst h
      · rw [moodStep_change hc]; exact hle
    · have hlate : ∀ d ∈ c :: cs, x < d.1 := fun d hd =>
        (List.mem_cons.mp hd).elim (· ▸ Rat.not_le.mp hle) fun hd => lt_of_lt_of_le (Rat.not_le.mp hle) (hc1 d hd)
      rw [moodAt_all_late hlate] at hm ⊢
      obtain ⟨p, hp, h1, h2, h3⟩ := open_period_recorded (c :: cs) st x e hm hx hlate
      exact ⟨p, hp, h1, h2 ▸ hst hm, h3⟩

end Shk.Plot
