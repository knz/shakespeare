import ShkModel.Model.Stopper
/-! Runnable schedules of the stopper model: reachable states by evaluation, for the non-vacuity examples. -/
namespace Shk.Stopper

inductive Sched
  | call (k : Kind)
  | go (i : Nat)
  | ret (i : Nat)
  | alt (i : Nat)

def runSched : St → List Sched → Option St
  | s, [] => some s
  | s, .call k :: r => runSched (spawn s k) r
  | s, .go i :: r => (step s i .go).bind fun s' => runSched s' r
  | s, .ret i :: r => (step s i .ret).bind fun s' => runSched s' r
  | s, .alt i :: r => (step s i .alt).bind fun s' => runSched s' r

theorem reach_run {cap : Nat} {s s' : St} (h : Reach cap s) (l : List Sched) (hr : runSched s l = some s') : Reach cap s' := by
  induction l generalizing s with
  | nil => cases hr; exact h
  | cons x xs ih =>
    have next : ∀ {i a}, ((step s i a).bind fun s1 => runSched s1 xs) = some s' → Reach cap s' := fun {i a} hr =>
      let ⟨s1, hs, hr⟩ := Option.bind_eq_some_iff.mp hr
      ih (.step s s1 i a h hs) hr
    cases x with
    | call k => exact ih (.spawn s k h) hr
    | go i => exact next hr
    | ret i => exact next hr
    | alt i => exact next hr

open Sched in
/-- an async task, a limited task, a worker, a closer and both cancel contexts; Stop racing with a late RunTask; a late
AddCloser (no Quiesce, no throttled task) -/
def demo : List Sched :=
  [call .atask, call (.ltask true), call .worker, call .closer, call .wcq, call .wcs,
   go 0, go 1, go 1, go 2, go 3, go 4, go 5, ret 0, ret 2, ret 3,
   call .stop, go 6, go 6,            -- Stop: stopCalled, quiescing
   call .task, go 7, ret 7,           -- late RunTask: refused
   go 0, go 0, go 1, go 1,            -- bodies run
   go 0, go 1, go 1,                  -- postlude / release / postlude
   go 6, go 6,                        -- drained, stop channel closed
   go 2, go 2, go 2,                  -- worker runs and is done
   go 6, go 6, go 6,                  -- wait passed, closer called, stopped
   call .closer, go 8, go 8, ret 8,   -- late closer: called at once
   go 6, ret 6]

theorem demo_runs : (runSched (init 1) demo).isSome = true := by decide +kernel
def demoEnd : St := (runSched (init 1) demo).get demo_runs

open Sched in
/-- Stop runs to the end, then RunWorker is called -/
def lateWorker : List Sched := [call .stop, go 0, go 0, go 0, go 0, go 0, go 0, go 0, call .worker, go 1, go 1]
theorem late_runs : (runSched (init 1) lateWorker).isSome = true := by decide +kernel
def lateEnd : St := (runSched (init 1) lateWorker).get late_runs

end Shk.Stopper
