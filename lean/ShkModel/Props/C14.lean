import ShkModel.Lemmas.Race
import ShkModel.Model.RacePolicy
/-!
# C14 — no data race between prompter, spotlights, auditors, collector (partial)

`discipline_sound` is about the abstract fork/join execution model of `Model/Race.lean`:
any number of thread instances (actors, lines, commands), any interleaving, any length.
What ties it to the code is the regenerated access table (`Gen/Access.lean`) and `table_ok`.
See the header of `Model/Race.lean` for what is assumed (A1–A4).
-/
namespace Shk.C14
open Shk.Race

/-- **Soundness of the discipline.**  If the access table satisfies `disciplineOk` for a policy,
then no execution of a program described by the table (in the sense of `Exec`: its events
instantiate rows of the table and the fork / join / end-signal facts mean what they say)
contains a data race — for any number of thread instances and events. -/
theorem discipline_sound (T : Table) (pol : Nat → Option Discipline) (allowed : List String)
    (h : disciplineOk T pol allowed = true) (ex : Exec T pol) : ∀ i j, ¬ Race ex.tr i j := by
  rintro i j ⟨t, u, a, b, o, hi, hj, hloc, hw, hat, htu, hn₁, hn₂⟩
  simp only [disciplineOk, Bool.and_eq_true, List.all_eq_true, List.mem_range] at h
  obtain ⟨⟨⟨_, hg⟩, hstw⟩, hall⟩ := h
  have hc := hall a.loc (mem_accsAt hg (ex.typed i t a o hi).1 rfl).2
  rcases checkLoc_sound ex hg hstw hc hi hj hloc hw htu with h | h | h
  · exact hat h
  · exact hn₁ h
  · exact hn₂ h

/-- **The obligation a code change breaks.**  The access table regenerated from the working tree
satisfies the hand-written policy (kernel evaluation). -/
theorem table_ok : disciplineOk Gen.table pol allowedLeaks = true := by decide +kernel

/-- the two together: no execution of the abstract model that instantiates the CURRENT table races -/
theorem current_table_race_free (ex : Exec Gen.table pol) : ∀ i j, ¬ Race ex.tr i j :=
  discipline_sound Gen.table pol allowedLeaks table_ok ex

/-! ## Non-vacuity -/

/-- a worker writes location 0 while another thread reads it, no fork, join or lock in between -/
def wr : Access := ⟨1, 0, true, false, [], false, []⟩
def rd : Access := ⟨2, 0, false, false, [], false, []⟩
def racyTrace : Trace := [⟨1, .acc wr 0⟩, ⟨2, .acc rd 0⟩]

/-- `Race` is satisfiable -/
theorem racy_races : Race racyTrace 0 1 := by
  refine ⟨1, 2, wr, rd, 0, rfl, rfl, rfl, Or.inl rfl, by decide, by decide, ?_, ?_⟩
  · intro h
    -- no rule applies: different threads, no fork / join / lock, nothing in between
    have a0 : At racyTrace 0 1 (.acc wr 0) := rfl
    have a1 : At racyTrace 1 2 (.acc rd 0) := rfl
    have key : ∀ i j, HB racyTrace i j → ¬ (i = 0 ∧ j = 1) := by
      intro i j h
      induction h with
      | po h₁ h₂ _ =>
        rintro ⟨rfl, rfl⟩
        have e₁ := (At.inj h₁ a0).1
        have e₂ := (At.inj h₂ a1).1
        rw [e₁] at e₂
        cases e₂
      | fork h₁ _ _ =>
        rintro ⟨rfl, rfl⟩
        cases (At.inj h₁ a0).2
      | join h₁ _ _ =>
        rintro ⟨rfl, rfl⟩
        cases (At.inj h₁ a0).2
      | lock h₁ _ hm _ _ =>
        rintro ⟨rfl, rfl⟩
        cases (At.inj h₁ a0).2
        cases hm
      | chan h₁ _ _ =>
        rintro ⟨rfl, rfl⟩
        cases (At.inj h₁ a0).2
      | trans h₁ h₂ _ _ =>
        rintro ⟨rfl, rfl⟩
        have := hb_lt h₁
        have := hb_lt h₂
        omega
    exact key 0 1 h ⟨rfl, rfl⟩
  · intro h
    have := hb_lt h
    omega

/-- the checker rejects a table in which a spotlight-like worker updates a field (location 0,
policy `handoff`) while the play runs and main reads it while the play runs:
root 0 = main, root 1 = worker forked by main and joined; main's read is `mid` -/
def badTable : Table :=
  ⟨[⟨[], false, true, false, [], []⟩, ⟨[0], false, true, true, [], []⟩],
   [[⟨1, 0, true, false, [], true, []⟩, ⟨0, 0, false, false, [], false, [(1, .mid)]⟩]], []⟩

example : disciplineOk badTable (fun _ => some .handoff) [] = false := by decide +kernel

/-- … and accepts it once main reads only after the join -/
def goodTable : Table :=
  ⟨[⟨[], false, true, false, [], []⟩, ⟨[0], false, true, true, [], []⟩],
   [[⟨1, 0, true, false, [], true, []⟩, ⟨0, 0, false, false, [], false, [(1, .post)]⟩]], []⟩

example : disciplineOk goodTable (fun _ => some .handoff) [] = true := by decide +kernel

/-- a shared written location without a policy entry is rejected -/
example : disciplineOk goodTable (fun _ => none) [] = false := by decide +kernel

/-- a `message` location that some function writes after sending the object is rejected … -/
def stwTable : Table :=
  ⟨[⟨[], false, true, false, [], []⟩, ⟨[0], false, true, true, [], []⟩],
   [[⟨1, 0, true, false, [], true, []⟩, ⟨0, 0, false, false, [], false, [(1, .mid)]⟩]], [0]⟩

example : disciplineOk stwTable (fun _ => some .message) [] = false := by decide +kernel

/-- … accepted once the location is off the sent-then-written list, or when the location is protected by a lock that both sides hold -/
example : disciplineOk { stwTable with sentThenWritten := [] } (fun _ => some .message) [] = true := by decide +kernel

example : disciplineOk
    ⟨stwTable.roots, [[⟨1, 0, true, false, [7], true, []⟩, ⟨0, 0, false, false, [7], false, [(1, .mid)]⟩]], [0]⟩
    (fun _ => some (.locked 7)) [] = true := by decide +kernel

/-- a join-skipping exit that is not on the allowed list is rejected -/
example : disciplineOk ⟨[⟨[], false, true, false, [], ["f: return"]⟩], [], []⟩ (fun _ => none) [] = false := by decide +kernel

/-! `Exec` is inhabited (the hypotheses of `discipline_sound` are not contradictory): main forks a
worker, the worker writes and signals its end, main joins and reads. -/
section demo
def dW : Access := ⟨1, 0, true, false, [], true, []⟩
def dR : Access := ⟨0, 0, false, false, [], false, [(1, .post)]⟩
def demoTrace : Trace := [⟨0, .fork 1⟩, ⟨1, .acc dW 0⟩, ⟨1, .done⟩, ⟨0, .join 1⟩, ⟨0, .acc dR 0⟩]
def demoPol : Nat → Option Discipline := fun _ => some .handoff
def demoRoot (t : Tid) : Nat := if t = 1 then 1 else 0
def demoPar (t : Tid) : Option Tid := if t = 1 then some 0 else none

private theorem demo_cases {i : Nat} {t : Tid} {a : Act} (h : At demoTrace i t a) :
    (i = 0 ∧ t = 0 ∧ a = .fork 1) ∨ (i = 1 ∧ t = 1 ∧ a = .acc dW 0) ∨ (i = 2 ∧ t = 1 ∧ a = .done) ∨
    (i = 3 ∧ t = 0 ∧ a = .join 1) ∨ (i = 4 ∧ t = 0 ∧ a = .acc dR 0) := by
  match i, h with
  | 0, h | 1, h | 2, h | 3, h | 4, h => cases h; simp
  | _ + 5, h => cases h

private theorem demo_par {c t : Tid} (h : demoPar c = some t) : c = 1 ∧ t = 0 := by
  unfold demoPar at h
  split at h
  · next hc => cases h; exact ⟨hc, rfl⟩
  · cases h

def demoExec : Exec goodTable demoPol where
  tr := demoTrace
  rootOf := demoRoot
  par := demoPar
  typed := by
    intro i t a o h
    rcases demo_cases h with ⟨_, ht, h'⟩ | ⟨_, ht, h'⟩ | ⟨_, ht, h'⟩ | ⟨_, ht, h'⟩ | ⟨_, ht, h'⟩ <;>
      cases h' <;> subst ht <;> decide
  parTyped := by
    intro c t h
    obtain ⟨rfl, rfl⟩ := demo_par h
    decide
  hasParent := by
    intro u _ hr
    refine ⟨0, ?_⟩
    unfold demoRoot at hr
    unfold demoPar
    split at hr
    · next h => simp [h]
    · exact absurd rfl hr
  mainUnique := by
    rintro t u ⟨i, a, hi⟩ ⟨j, b, hj⟩ ht hu
    -- two events of the same thread: `rfl`; otherwise one is the worker's, whose root is 1 (`ht` or `hu` is false)
    rcases demo_cases hi with ⟨_, rfl, _⟩ | ⟨_, rfl, _⟩ | ⟨_, rfl, _⟩ | ⟨_, rfl, _⟩ | ⟨_, rfl, _⟩ <;>
      rcases demo_cases hj with ⟨_, rfl, _⟩ | ⟨_, rfl, _⟩ | ⟨_, rfl, _⟩ | ⟨_, rfl, _⟩ | ⟨_, rfl, _⟩ <;>
      first | rfl | exact absurd ht (by decide) | exact absurd hu (by decide)
  onceSem := by
    intro c₁ c₂ t R h₁ h₂ _ _ _ _
    rw [(demo_par h₁).1, (demo_par h₂).1]
  forkExists := by
    intro c t h
    obtain ⟨rfl, rfl⟩ := demo_par h
    exact ⟨0, rfl⟩
  forkFirst := by
    intro k t c j a hk hj
    rcases demo_cases hk with ⟨rfl, rfl, h⟩ | ⟨_, _, h⟩ | ⟨_, _, h⟩ | ⟨_, _, h⟩ | ⟨_, _, h⟩ <;> cases h
    -- the fork is event 0; the worker's events are 1 and 2 (`omega`), the others are main's (`h : 1 = 0`)
    rcases demo_cases hj with ⟨_, h, _⟩ | ⟨rfl, _, _⟩ | ⟨rfl, _, _⟩ | ⟨_, h, _⟩ | ⟨_, h, _⟩ <;>
      first | omega | cases h
  relSem := by
    intro i t a o c h hp
    obtain ⟨rfl, rfl⟩ := demo_par hp
    -- main's only access is the read at 4: the write at 1 is the worker's (`ht`), the other events are no access (`h'`)
    rcases demo_cases h with ⟨_, _, h'⟩ | ⟨_, ht, _⟩ | ⟨_, _, h'⟩ | ⟨_, _, h'⟩ | ⟨rfl, _, h'⟩ <;>
      first | cases h' | cases ht
    exact ⟨3, by omega, rfl⟩
  joinObs := by
    intro k t c h
    rcases demo_cases h with ⟨_, _, h'⟩ | ⟨_, _, h'⟩ | ⟨_, _, h'⟩ | ⟨rfl, rfl, h'⟩ | ⟨_, _, h'⟩ <;> cases h'
    exact ⟨2, by omega, rfl⟩
  preDoneSem := by
    intro i c a o d hi _ hd
    rcases demo_cases hi with ⟨_, _, h'⟩ | ⟨rfl, rfl, _⟩ | ⟨_, _, h'⟩ | ⟨_, _, h'⟩ | ⟨rfl, rfl, _⟩
    · cases h'
    · -- the write at 1: the only `done` is event 2 (`omega`)
      rcases demo_cases hd with ⟨_, _, h'⟩ | ⟨_, _, h'⟩ | ⟨rfl, _, _⟩ | ⟨_, _, h'⟩ | ⟨_, _, h'⟩ <;>
        first | omega | cases h'
    · cases h'
    · cases h'
    · rcases demo_cases hd with ⟨_, _, h'⟩ | ⟨_, _, h'⟩ | ⟨_, h', _⟩ | ⟨_, _, h'⟩ | ⟨_, _, h'⟩ <;> cases h'
  jbdSem := by
    intro u p R d hp hR _ hm _
    obtain ⟨rfl, rfl⟩ := demo_par hp
    have : R = ⟨[0], false, true, true, [], []⟩ := by
      have : goodTable.roots[demoRoot 1]? = some ⟨[0], false, true, true, [], []⟩ := by rfl
      rw [this] at hR
      cases hR
      rfl
    subst this
    cases hm
  seqSem := by
    intro c₁ c₂ t R hne h₁ h₂
    exact absurd ((demo_par h₁).1.trans (demo_par h₂).1.symm) hne
  own := by
    intro i j t u a b o owners _ _ _ hp
    cases hp
  sendSem := by
    intro i k t a o _ _ hk
    rcases demo_cases hk with ⟨_, _, h⟩ | ⟨_, _, h⟩ | ⟨_, _, h⟩ | ⟨_, _, h⟩ | ⟨_, _, h⟩ <;> cases h
  msgSem := by
    intro i j t u a b o _ _ _ hp
    cases hp

/-- the demo execution is covered by the theorem (and `goodTable` passes the checker) -/
example : ∀ i j, ¬ Race demoExec.tr i j :=
  discipline_sound goodTable demoPol [] (by decide +kernel) demoExec
end demo

/-! … and so is an execution with a channel hand-over: main writes a `message` object, sends it, the
worker receives it and reads it. -/
section demoMsg
def mW : Access := ⟨0, 0, true, false, [], false, [(1, .mid)]⟩
def mR : Access := ⟨1, 0, false, false, [], false, []⟩
def msgTable : Table :=
  ⟨[⟨[], false, true, false, [], []⟩, ⟨[0], false, true, false, [], []⟩], [[mW, mR]], []⟩
def msgTrace : Trace := [⟨0, .fork 1⟩, ⟨0, .acc mW 0⟩, ⟨0, .send 0⟩, ⟨1, .recv 0⟩, ⟨1, .acc mR 0⟩]
def msgPol : Nat → Option Discipline := fun _ => some .message

private theorem msg_cases {i : Nat} {t : Tid} {a : Act} (h : At msgTrace i t a) :
    (i = 0 ∧ t = 0 ∧ a = .fork 1) ∨ (i = 1 ∧ t = 0 ∧ a = .acc mW 0) ∨ (i = 2 ∧ t = 0 ∧ a = .send 0) ∨
    (i = 3 ∧ t = 1 ∧ a = .recv 0) ∨ (i = 4 ∧ t = 1 ∧ a = .acc mR 0) := by
  match i, h with
  | 0, h | 1, h | 2, h | 3, h | 4, h => cases h; simp
  | _ + 5, h => cases h

def msgExec : Exec msgTable msgPol where
  tr := msgTrace
  rootOf := demoRoot
  par := demoPar
  typed := by
    intro i t a o h
    rcases msg_cases h with ⟨_, ht, h'⟩ | ⟨_, ht, h'⟩ | ⟨_, ht, h'⟩ | ⟨_, ht, h'⟩ | ⟨_, ht, h'⟩ <;>
      cases h' <;> subst ht <;> decide
  parTyped := by
    intro c t h
    obtain ⟨rfl, rfl⟩ := demo_par h
    decide
  hasParent := by
    intro u _ hr
    refine ⟨0, ?_⟩
    unfold demoRoot at hr
    unfold demoPar
    split at hr
    · next h => simp [h]
    · exact absurd rfl hr
  mainUnique := by
    rintro t u ⟨i, a, hi⟩ ⟨j, b, hj⟩ ht hu
    rcases msg_cases hi with ⟨_, rfl, _⟩ | ⟨_, rfl, _⟩ | ⟨_, rfl, _⟩ | ⟨_, rfl, _⟩ | ⟨_, rfl, _⟩ <;>
      rcases msg_cases hj with ⟨_, rfl, _⟩ | ⟨_, rfl, _⟩ | ⟨_, rfl, _⟩ | ⟨_, rfl, _⟩ | ⟨_, rfl, _⟩ <;>
      first | rfl | exact absurd ht (by decide) | exact absurd hu (by decide)
  onceSem := by
    intro c₁ c₂ t R h₁ h₂ _ _ _ _
    rw [(demo_par h₁).1, (demo_par h₂).1]
  forkExists := by
    intro c t h
    obtain ⟨rfl, rfl⟩ := demo_par h
    exact ⟨0, rfl⟩
  forkFirst := by
    intro k t c j a hk hj
    rcases msg_cases hk with ⟨rfl, rfl, h⟩ | ⟨_, _, h⟩ | ⟨_, _, h⟩ | ⟨_, _, h⟩ | ⟨_, _, h⟩ <;> cases h
    rcases msg_cases hj with ⟨_, h, _⟩ | ⟨_, h, _⟩ | ⟨_, h, _⟩ | ⟨rfl, _, _⟩ | ⟨rfl, _, _⟩ <;>
      first | omega | cases h
  relSem := by
    intro i t a o c h hp
    obtain ⟨rfl, rfl⟩ := demo_par hp
    rcases msg_cases h with ⟨_, _, h'⟩ | ⟨_, _, h'⟩ | ⟨_, _, h'⟩ | ⟨_, _, h'⟩ | ⟨_, ht, _⟩ <;>
      first | cases ht | cases h'
    trivial
  joinObs := by
    intro k t c h
    rcases msg_cases h with ⟨_, _, h'⟩ | ⟨_, _, h'⟩ | ⟨_, _, h'⟩ | ⟨_, _, h'⟩ | ⟨_, _, h'⟩ <;> cases h'
  preDoneSem := by
    intro i c a o d _ _ hd
    rcases msg_cases hd with ⟨_, _, h'⟩ | ⟨_, _, h'⟩ | ⟨_, _, h'⟩ | ⟨_, _, h'⟩ | ⟨_, _, h'⟩ <;> cases h'
  jbdSem := by
    intro u p R d _ _ _ _ hd
    rcases msg_cases hd with ⟨_, _, h'⟩ | ⟨_, _, h'⟩ | ⟨_, _, h'⟩ | ⟨_, _, h'⟩ | ⟨_, _, h'⟩ <;> cases h'
  seqSem := by
    intro c₁ c₂ t R hne h₁ h₂
    exact absurd ((demo_par h₁).1.trans (demo_par h₂).1.symm) hne
  own := by
    intro i j t u a b o owners _ _ _ hp
    cases hp
  sendSem := by
    intro i k t a o hi _ hk
    rcases msg_cases hk with ⟨_, _, h⟩ | ⟨_, _, h⟩ | ⟨rfl, rfl, _⟩ | ⟨_, _, h⟩ | ⟨_, _, h⟩ <;> first | cases h | skip
    rcases msg_cases hi with ⟨_, _, h⟩ | ⟨rfl, _, _⟩ | ⟨_, _, h⟩ | ⟨_, _, h⟩ | ⟨_, ht, _⟩ <;>
      first | cases h | cases ht | exact Or.inr (by omega)
  msgSem := by
    intro i j t u a b o hi hj _ _ htu _
    rcases msg_cases hi with ⟨_, _, h⟩ | ⟨rfl, rfl, h⟩ | ⟨_, _, h⟩ | ⟨_, _, h⟩ | ⟨rfl, rfl, h⟩ <;> cases h <;>
      rcases msg_cases hj with ⟨_, _, h⟩ | ⟨rfl, rfl, h⟩ | ⟨_, _, h⟩ | ⟨_, _, h⟩ | ⟨rfl, rfl, h⟩ <;> cases h
    · exact absurd rfl htu
    · exact Or.inl ⟨2, 3, rfl, rfl, by omega, by omega, by intro h; cases h⟩
    · exact Or.inr ⟨2, 3, rfl, rfl, by omega, by omega, by intro h; cases h⟩
    · exact absurd rfl htu

example : ∀ i j, ¬ Race msgExec.tr i j :=
  discipline_sound msgTable msgPol [] (by decide +kernel) msgExec
end demoMsg

end Shk.C14
