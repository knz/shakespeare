import ShkModel.Lemmas.Log
/-!
# C16 — log entries survive formatting, decoding, rotation and garbage collection

Model: `ShkModel/Model/Log.lean` (`format` = `formatHeader`/`formatLogEntry` with a nil colour
profile, `decode` = `EntryDecoder` = `entryRE` + `split` under `bufio.Scanner` + `Decode`,
`write`/`rotate` = `syncBuffer.Write`/`rotateFile`/`create`, `gcKeep` = `gcOldFiles`).

`wf e` is the domain of the property: severity 1–4, a valid date in 2000–2068, time of day to the
microsecond, goroutine id and line number in 0 … 2⁶³−1, a non-empty file name without `:` or
newline that (when the goroutine id is 0) does not look like `<digits><blank>…`, and a
single-line message without leading or trailing white space (the decoder trims).  The message is
otherwise arbitrary: it may contain header-like text or whole formatted entries.

`cap` is the size of the window through which the decoder sees its input
(`bufio.MaxScanTokenSize` = 65536 in the real code); the theorems hold for every `cap`.
-/
namespace Shk.C16
open Shk.Log

/-- **Format, then decode: the same fields.**  For every entry in the domain whose formatted
form fits the scanner window. -/
theorem decode_format (cap : Nat) (e : Entry) (hwf : wf e = true)
    (hfit : (format e).length ≤ cap) : decode cap (format e) = ([e], false) := by
  simpa using decode_concat_WF cap [e] (fun x hx => by rw [List.mem_singleton.mp hx]; exact wf_WF e hwf)
    (by simpa [fits] using hfit)

/-- … and an entry that does not fit the window is *not* decoded back (it is cut at the window
size): the hypothesis of `decode_format` is the representable message size of the decoder.
Witness with a window of 30 code units. -/
theorem decode_format_needs_window :
    ∃ cap e, wf e = true ∧ cap < (format e).length ∧ decode cap (format e) ≠ ([e], false) :=
  ⟨30, { sev := 1, year := 2000, month := 1, day := 1, hour := 0, minute := 0, second := 0, micro := 0,
         gid := 0, file := ['f'], line := 1, msg := ['a', 'a', 'a', 'a', 'a', 'a'] }, by decide +kernel⟩

/-
Full statement of the concatenation part of the property (for every `cap`, in particular 65536):

    ∀ es, (∀ e ∈ es, wf e = true) → (∀ e ∈ es, (format e).length ≤ cap) →
      decode cap (es.flatMap format) = (es, false)

It is FALSE for the code as it is (`decode_concat_full_fails` below, and on the real decoder: an
entry whose formatted length is 65500 … 65535 bytes swallows the entry that follows it).  What
holds is the statement under the stronger hypothesis `fits`: every entry *together with its
successor* fits the window.
-/

/-- **Concatenations decode entry by entry**, also when messages contain header-like text
(a header can only match at a line start, and a single-line message never starts a line).
Partial: needs `fits cap es` (each entry and the one after it fit the window together) instead
of just "each entry fits". -/
theorem decode_concat_partial (cap : Nat) (es : List Entry) (hwf : ∀ e ∈ es, wf e = true)
    (hfit : fits cap es = true) : decode cap (es.flatMap format) = (es, false) :=
  decode_concat_WF cap es (fun e he => wf_WF e (hwf e he)) hfit

/-- The full statement fails: two entries in the domain, each fitting the window on its own
(36 and 31 code units, window 40), whose concatenation is decoded to ONE entry with a garbled
message — the header of the second entry straddles the end of the window, so `split` finds no
next header, cuts the token at the window size and then skips to the next header it can find.
The real decoder shows the same behaviour at 65536 (see the check's window probes). -/
theorem decode_concat_full_fails :
    ∃ cap e₁ e₂, wf e₁ = true ∧ wf e₂ = true ∧ (format e₁).length ≤ cap ∧ (format e₂).length ≤ cap ∧
      decode cap (format e₁ ++ format e₂) ≠ ([e₁, e₂], false) :=
  ⟨40,
   { sev := 1, year := 2000, month := 1, day := 1, hour := 0, minute := 0, second := 0, micro := 0,
     gid := 0, file := ['f'], line := 1, msg := ['a', 'a', 'a', 'a', 'a', 'a'] },
   { sev := 1, year := 2000, month := 1, day := 1, hour := 0, minute := 0, second := 0, micro := 0,
     gid := 0, file := ['f'], line := 1, msg := ['b'] }, by decide +kernel⟩

/-! ### non-vacuity: entries with header-like messages, extreme fields -/

def ex1 : Entry :=
  { sev := 4, year := 2068, month := 12, day := 31, hour := 23, minute := 59, second := 59, micro := 999999,
    gid := 9223372036854775807, file := "a/7 b.go".toList, line := 9223372036854775807,
    msg := "x  I200101 00:00:00.000000 12 f.go:1  inner".toList }

def ex2 : Entry :=
  { sev := 2, year := 2000, month := 2, day := 29, hour := 0, minute := 0, second := 0, micro := 0,
    gid := 0, file := "12".toList, line := 0, msg := "W000229 00:00:00.000000 12:0".toList }

-- (a string literal is read as the list of its characters first: the kernel decodes `"…".toList` byte by byte)
set_option maxRecDepth 100000 in
example : wf ex1 = true ∧ wf ex2 = true ∧ fits 65536 [ex1, ex2, ex1] = true := by
  unfold ex1 ex2; repeat rw [String.toList_ofList]
  decide +kernel
set_option maxRecDepth 100000 in
example : decode 65536 (format ex1 ++ format ex2 ++ format ex1) = ([ex1, ex2, ex1], false) := by
  unfold ex1 ex2; repeat rw [String.toList_ofList]
  decide +kernel
-- outside the domain the round trip really fails (year 2069 comes back as 1969)
set_option maxRecDepth 100000 in
example : decode 65536 (format { ex2 with year := 2069, day := 28 }) ≠ ([{ ex2 with year := 2069, day := 28 }], false) := by
  decide +kernel

/-- **Rotation loses nothing**: for every threshold, every sequence of messages (of any sizes
relative to the threshold), every clock and every header size, the files read in name order
with the per-file header entries removed are exactly the messages, each once, in order.  (That a
message is never split across files is built into the model: a message is one item of one file.) -/
theorem rotation_lossless {α : Type} (size : α → Nat) (max : Nat) (ws : List (Wr α)) :
    readBack (run size max {} (ws.map Op.write)) = ws.map (·.msg) := by
  have := readBack_run_writes size max {} ws
  simpa [readBack] using this

/-! ### Rotation, down to the bytes

`rotation_lossless` is about items; here the items are log entries, a file is the concatenation of its formatted entries
(header entries of `rotateFile` included), `size` is the formatted length (what `sb.nbytes` counts), and reading back
means decoding those bytes. -/

/-- the bytes of a log file -/
def fileBytes (f : LFile Entry) : List Char := (f.items.map (·.val)).flatMap format

/-- every entry involved in a sequence of writes: the messages and the header entries of the rotations -/
def entriesOf (ws : List (Wr Entry)) : List Entry := ws.flatMap fun w => w.msg :: (w.hdrs0 ++ w.hdrs1)

/-- **Every file decodes to its entries**: whatever the threshold and the clock, if every entry written (messages and
rotation headers) is in the domain of the round trip and takes at most half the scanner window, then every log file the
sequence of writes leaves behind decodes — from its bytes — to exactly the entries that were written to it, in order and
without an error.  With `rotation_lossless` (the items of the files, headers removed, are the messages, each once, in
order) this is "after a flush every message logged so far can be read back exactly once and in order across file
rotations", stated on bytes. -/
theorem rotated_files_decode (cap max : Nat) (ws : List (Wr Entry))
    (hwf : ∀ e ∈ entriesOf ws, wf e = true) (hsmall : ∀ e ∈ entriesOf ws, 2 * (format e).length ≤ cap) :
    ∀ f ∈ (run (fun e => (format e).length) max {} (ws.map Op.write)).files,
      decode cap (fileBytes f) = (f.items.map (·.val), false) := by
  intro f hf
  have hin : ∀ i ∈ f.items, i.val ∈ entriesOf ws := fun i hi =>
    (mem_contents_run_writes _ ws {} (List.mem_flatMap.mpr ⟨f, hf, List.mem_map.mpr ⟨i, hi, rfl⟩⟩)).resolve_right
      (by simp [contents])
  unfold fileBytes
  apply decode_concat_partial
  · intro e he
    obtain ⟨i, hi, rfl⟩ := List.mem_map.mp he
    exact hwf _ (hin i hi)
  · apply fits_of_small
    intro e he
    obtain ⟨i, hi, rfl⟩ := List.mem_map.mp he
    exact hsmall _ (hin i hi)

-- the premises are met by real entries: a message and a rotation header, far below half a window of 65536
set_option maxRecDepth 100000 in
example : ∀ e ∈ entriesOf [⟨ex2, 5, [ex2], 6, []⟩], wf e = true ∧ 2 * (format e).length ≤ 65536 := by decide +kernel

/-- **File names increase**: whatever the clock does (also when it stands still or goes back),
the stamps of the files are strictly increasing in creation order — also with GC runs in between. -/
theorem names_increasing {α : Type} (size : α → Nat) (max : Nat) (ops : List (Op α)) :
    ((run size max {} ops).files.map (·.stamp)).Pairwise (· > ·) :=
  (stamped_run size max {} ops ⟨by simp, by simp⟩).1

/-- **With GC runs anywhere in between**, what can be read back is a gap-free tail of what was
logged (each message at most once, in order). -/
theorem readback_is_tail {α : Type} (size : α → Nat) (max : Nat) (ops : List (Op α)) :
    readBack (run size max {} ops) <:+ writesOf ops := by
  have := readBack_run_suffix size max {} ops [] (by simp [readBack])
  simpa using this

/-- **The newest message always survives**: after any history, a message just logged is the last
one read back, whatever GC passes (with whatever bounds) follow. -/
theorem newest_message_survives {α : Type} (size : α → Nat) (max : Nat) (ops : List (Op α)) (w : Wr α)
    (bounds : List Nat) :
    (readBack (run size max {} (ops ++ .write w :: bounds.map Op.gc))).getLast? = some w.msg := by
  rw [run_append, run_cons]
  exact headEnds_readBack _ _ (headEnds_run_gcs size max _ _ bounds (headEnds_write size max _ w))

/-- A GC pass never touches the open (newest) file. -/
theorem gc_keeps_open_file {α : Type} (size : α → Nat) (bound : Nat) (s : Rot α) :
    (gc size bound s).files.head? = s.files.head? := gc_head size bound s

/-! ## GC selection (sizes newest first) -/

/-- **The newest file is always kept.** -/
theorem gc_keeps_newest (bound s : Nat) (r : List Nat) : (gcKeep bound (s :: r))[0]? = some true := rfl

/-- **Kept ⇔ newest, or cumulative size counted from the newest (the file itself included) stays
below the bound.** -/
theorem gc_prefix (bound : Nat) (sizes : List Nat) (i : Nat) (hi : i < sizes.length) :
    (gcKeep bound sizes)[i]? = some (i == 0 || decide ((sizes.take (i + 1)).sum < bound)) := by
  cases sizes with
  | nil => simp at hi
  | cons s r =>
    cases i with
    | zero => simp [gcKeep]
    | succ j =>
      simp only [List.length_cons] at hi
      simp only [gcKeep, List.getElem?_cons_succ, List.take_succ_cons, List.sum_cons]
      rw [gcGo_get bound s r j (by omega)]
      have h0 : (j + 1 == 0) = false := rfl
      rw [h0, Bool.false_or]
      congr 1

/-- hence the kept files are the newest `k` ones, for some `k ≥ 1`. -/
theorem gc_kept_is_prefix (bound : Nat) (sizes : List Nat) (h : sizes ≠ []) :
    ∃ k, 1 ≤ k ∧ k ≤ sizes.length ∧
      gcKeep bound sizes = List.replicate k true ++ List.replicate (sizes.length - k) false :=
  gcKeep_prefix bound sizes h

/-- **A larger bound never removes more**: a file kept under `b₁` is kept under every `b₂ ≥ b₁`. -/
theorem gc_monotone (b1 b2 : Nat) (hb : b1 ≤ b2) (sizes : List Nat) (i : Nat) (hi : i < sizes.length)
    (h : (gcKeep b1 sizes)[i]? = some true) : (gcKeep b2 sizes)[i]? = some true := by
  rw [gc_prefix b1 sizes i hi] at h
  rw [gc_prefix b2 sizes i hi]
  simp only [Option.some.injEq, Bool.or_eq_true, beq_iff_eq, decide_eq_true_eq] at h ⊢
  omega

/-- **A bound above the total size keeps every file.** -/
theorem gc_keeps_all (bound : Nat) (sizes : List Nat) (hb : sizes.sum < bound) (i : Nat) (hi : i < sizes.length) :
    (gcKeep bound sizes)[i]? = some true := by
  rw [gc_prefix bound sizes i hi]
  have h1 : (sizes.take (i + 1)).sum ≤ sizes.sum := by
    conv => rhs; rw [← List.take_append_drop (i + 1) sizes, List.sum_append]
    omega
  simp only [Option.some.injEq, Bool.or_eq_true, beq_iff_eq, decide_eq_true_eq]
  omega

/-- **A bound of 0 keeps only the newest.** -/
theorem gc_zero_keeps_only_newest (sizes : List Nat) (i : Nat) (hi : i < sizes.length) :
    (gcKeep 0 sizes)[i]? = some (i == 0) := by
  rw [gc_prefix 0 sizes i hi]; simp

example : gcKeep 10 [3, 4, 5, 1, 0] = [true, true, false, false, false] := by decide
example : gcKeep 0 [3, 4] = [true, false] := by decide

/-- five messages of size 20 against a threshold of 100 with 40 bytes of header entries per file,
the clock standing still at 7, then a GC pass with bound 150: three files `7, 8, 9` holding
`[1,2] [3,4] [5]`; the oldest is removed, the last three messages remain. -/
example :
    let sz : Nat → Nat := fun m => if m = 1000 then 40 else 20
    let w (m : Nat) : Wr Nat := { msg := m, now0 := 7, hdrs0 := [1000], now1 := 7, hdrs1 := [1000] }
    let s := run sz 100 {} [.write (w 1), .write (w 2), .write (w 3), .write (w 4), .write (w 5)]
    s.files.map (·.stamp) = [9, 8, 7] ∧ readBack s = [1, 2, 3, 4, 5] ∧
    readBack (step sz 100 s (.gc 150)) = [3, 4, 5] := by decide

end Shk.C16
