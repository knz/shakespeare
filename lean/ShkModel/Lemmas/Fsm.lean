import ShkModel.Model.Fsm
/-! Helper lemmas for C01: the implementation monitors compute `disappointed` / `endsGood`;
certificate soundness; each spec monitor computes the plain meaning.  Nothing here depends on the
regenerated tables (`Gen`). -/
namespace Shk
open Table

theorem Mon.run_nil {σ} (a : Mon σ) (s : σ) : a.run s [] = a.out s := rfl
theorem Mon.run_cons {σ} (a : Mon σ) (s : σ) (b : Bool) (l : List Bool) :
    a.run s (b :: l) = a.run (a.step s b) l := rfl

theorem implMon_run (T : Table) (s : Nat) (bad : Bool) (l : List Bool) :
    (implMon T).run (s, bad) l = (bad || (T.period s l).any Rep.isBad) := by
  induction l generalizing s bad with
  | nil => exact congrArg (bad || ·) (Bool.or_false _).symm
  | cons b l ih => exact (ih _ _).trans (by rw [Table.period, List.any_cons, Bool.or_assoc])

theorem implMon_spec (T : Table) (l : List Bool) :
    (implMon T).run (implMon T).init l = T.disappointed l :=
  (implMon_run T T.start false l).trans (Bool.false_or _)

theorem period_ne_nil (T : Table) (s : Nat) (l : List Bool) : T.period s l ≠ [] := by
  cases l <;> simp [Table.period]

theorem period_getLast (T : Table) (s : Nat) (b : Bool) (l : List Bool) :
    (T.period s (b :: l)).getLast? = (T.period (T.fire s (lbl b)).1 l).getLast? := by
  simp only [Table.period]
  rw [List.getLast?_cons_of_ne_nil (period_ne_nil T _ l)]

/-- the two implementation monitors walk the table alike; they differ in what they say at the end -/
theorem implEndMon_run (T : Table) (s : Nat) (bad : Bool) (l : List Bool) :
    (implEndMon T).run (s, bad) l =
      (!(implMon T).run (s, bad) l && !((T.period s l).getLast? == some Rep.good)) := by
  induction l generalizing s bad with
  | nil =>
    have e (r : Rep) : r.isGood = (some r == some Rep.good) := by cases r <;> rfl
    exact congrArg (!(implMon T).run (s, bad) [] && !·) (e _)
  | cons b l ih => rw [period_getLast]; exact ih _ _

theorem implEndMon_spec (T : Table) (l : List Bool) :
    (implEndMon T).run (implEndMon T).init l = (!T.disappointed l && !T.endsGood l) :=
  (implEndMon_run T T.start false l).trans (congrArg (fun x => !x && !T.endsGood l) (implMon_spec T l))

theorem cert_sound {σ τ} [BEq σ] [BEq τ] [LawfulBEq σ] [LawfulBEq τ]
    (a : Mon σ) (b : Mon τ) (c : List (σ × τ)) (h : certOk a b c = true) :
    ∀ l, a.run a.init l = b.run b.init l := by
  simp only [certOk, Bool.and_eq_true, List.all_eq_true, beq_iff_eq, List.contains_iff_mem] at h
  obtain ⟨h0, hall⟩ := h
  have key : ∀ (l : List Bool) (s : σ) (t : τ), (s, t) ∈ c → a.run s l = b.run t l := by
    intro l
    induction l with
    | nil => intro s t hm; exact (hall _ hm).1.1
    | cons x xs ih =>
      intro s t hm
      cases x with
      | true => exact ih _ _ (hall _ hm).1.2
      | false => exact ih _ _ (hall _ hm).2
  exact fun l => key l _ _ h0

theorem equiv_sound {σ τ} [BEq σ] [BEq τ] [LawfulBEq σ] [LawfulBEq τ]
    (a : Mon σ) (b : Mon τ) (h : equivCheck a b = true) :
    ∀ l, a.run a.init l = b.run b.init l :=
  cert_sound a b _ (by simpa [equivCheck] using h)

/-- the monitor that never complains -/
def specFalse : Mon Unit := ⟨(), fun _ _ => (), fun _ => false⟩

theorem specFalse_run (l : List Bool) : specFalse.run () l = false := by
  induction l with
  | nil => rfl
  | cons b l ih => simpa [Mon.run, specFalse] using ih

/-- a latch (the shape of `specAlways`, `specNever`, `specNotAlways`, `specEventually`): the state turns `true` at
the first observation satisfying `p` and stays -/
theorem latch_run {a : Mon Bool} {p : Bool → Bool} (hstep : ∀ v b, a.step v b = (v || p b)) (v : Bool)
    (l : List Bool) : a.run v l = a.out (v || l.any p) := by
  induction l generalizing v with
  | nil => rw [Mon.run_nil, List.any_nil, Bool.or_false]
  | cons b l ih => rw [Mon.run_cons, hstep, ih, List.any_cons, Bool.or_assoc]

theorem specAlways_violates (l : List Bool) : specAlways.run specAlways.init l = !(meaning .always l) :=
  (latch_run (p := (!·)) (fun _ _ => rfl) false l).trans (List.not_all_eq_any_not (l := l) (p := id)).symm

theorem specNever_violates (l : List Bool) : specNever.run specNever.init l = !(meaning .never l) :=
  (latch_run (p := fun b => b) (fun _ _ => rfl) false l).trans (by simp [specNever, meaning, List.not_all_eq_any_not])

theorem specNotAlways_violates (l : List Bool) :
    specNotAlways.run specNotAlways.init l = !(meaning .notAlways l) :=
  latch_run (p := (!·)) (fun _ _ => rfl) false l

theorem specEventually_violates (l : List Bool) :
    specEventually.run specEventually.init l = !(meaning .eventually l) :=
  latch_run (p := fun b => b) (fun _ _ => rfl) false l

-- `step` / `out` of the spec monitors `specAlwaysEventually` (`sAE`), `specEventuallyAlways` (`sEA`), `specCount` (`sC`),
-- `specAtMostOnce` (`sAMO`) as equations for `rw`, the structure `Mon` staying folded
theorem sAE_step (s : Nat) (b : Bool) : specAlwaysEventually.step s b = if b then 1 else 2 := rfl
theorem sAE_out (s : Nat) : specAlwaysEventually.out s = (s != 1) := rfl

/-- the state only remembers the last observation -/
theorem specAlwaysEventually_run (s : Nat) (l : List Bool) :
    specAlwaysEventually.run s l = !((l.getLast?).getD (s == 1)) := by
  induction l generalizing s with
  | nil => simp [Mon.run_nil, sAE_out, bne]
  | cons b l ih =>
    rw [Mon.run_cons, ih, sAE_step]
    cases l with
    | nil => cases b <;> rfl
    | cons c l => rw [List.getLast?_cons_cons, List.getLast?_eq_some_getLast (List.cons_ne_nil c l)]; rfl

theorem specAlwaysEventually_violates (l : List Bool) :
    specAlwaysEventually.run specAlwaysEventually.init l = !(meaning .alwaysEventually l) := by
  rw [specAlwaysEventually_run, meaning]
  cases l.getLast? with
  | none => rfl
  | some b => cases b <;> rfl

theorem sEA_step0 (b : Bool) : specEventuallyAlways.step 0 b = if b then 1 else 0 := rfl
theorem sEA_step1 (b : Bool) : specEventuallyAlways.step 1 b = if b then 1 else 2 := rfl
theorem sEA_step2 (b : Bool) : specEventuallyAlways.step 2 b = 2 := rfl
theorem sEA_out (s : Nat) : specEventuallyAlways.out s = (s != 1) := rfl

theorem specEventuallyAlways_run2 (l : List Bool) : specEventuallyAlways.run 2 l = true := by
  induction l with
  | nil => rfl
  | cons b l ih => rw [Mon.run_cons, sEA_step2, ih]

theorem specEventuallyAlways_run1 (l : List Bool) : specEventuallyAlways.run 1 l = !(l.all id) := by
  induction l with
  | nil => rfl
  | cons b l ih =>
    rw [Mon.run_cons, sEA_step1]
    cases b with
    | true => simpa using ih
    | false => simpa using specEventuallyAlways_run2 l

theorem specEventuallyAlways_violates (l : List Bool) :
    specEventuallyAlways.run specEventuallyAlways.init l = !(meaning .eventuallyAlways l) := by
  induction l with
  | nil => rfl
  | cons b l ih =>
    show specEventuallyAlways.run 0 (b :: l) = _
    rw [Mon.run_cons, sEA_step0]
    cases b with
    | true => simp [meaning, specEventuallyAlways_run1]
    | false => exact ih

theorem sC_step (k n : Nat) (b : Bool) :
    (specCount k).step n b = if b then min (n+1) (k+1) else n := rfl
theorem sC_out (k n : Nat) : (specCount k).out n = (n != k) := rfl
theorem sAMO_step (n : Nat) (b : Bool) :
    specAtMostOnce.step n b = if b then min (n+1) 2 else n := rfl
theorem sAMO_out (n : Nat) : specAtMostOnce.out n = (n == 2) := rfl

theorem min_add_min (a c cap : Nat) : min (min a cap + c) cap = min (a + c) cap := by
  rcases Nat.le_total a cap with h | h
  · rw [Nat.min_eq_left h]
  · rw [Nat.min_eq_right h, Nat.min_eq_right (Nat.le_add_right cap c),
      Nat.min_eq_right (Nat.le_trans h (Nat.le_add_right a c))]

/-- a counter of the `true`s that saturates at `cap` (the shape of `specCount`, `specAtMostOnce`) -/
theorem satCount_run {a : Mon Nat} {cap : Nat} (hstep : ∀ n b, a.step n b = if b then min (n+1) cap else n)
    (n : Nat) (l : List Bool) (hn : n ≤ cap) : a.run n l = a.out (min (n + l.count true) cap) := by
  induction l generalizing n with
  | nil => rw [Mon.run_nil, List.count_nil, Nat.add_zero, Nat.min_eq_left hn]
  | cons b l ih =>
    rw [Mon.run_cons, hstep]
    cases b with
    | true =>
      rw [if_pos rfl, ih _ (Nat.min_le_right (n+1) cap), List.count_cons_self, min_add_min, Nat.add_assoc,
        Nat.add_comm 1]
    | false => rw [if_neg Bool.false_ne_true, ih n hn, List.count_cons_of_ne (by decide)]

/-- `meaning .once`, `.twice`, `.thrice` are this test at `k = 1, 2, 3`, by definition -/
theorem specCount_violates (k : Nat) (l : List Bool) :
    (specCount k).run (specCount k).init l = !(l.count true == k) := by
  refine (satCount_run (sC_step k) 0 l (Nat.zero_le _)).trans ?_
  rw [sC_out, Nat.zero_add, bne]
  refine congrArg (!·) ?_
  rw [Bool.eq_iff_iff, beq_iff_eq, beq_iff_eq]
  omega

theorem specAtMostOnce_violates (l : List Bool) :
    specAtMostOnce.run specAtMostOnce.init l = !(meaning .atMostOnce l) := by
  refine (satCount_run sAMO_step 0 l (Nat.zero_le _)).trans ?_
  rw [Nat.zero_add, sAMO_out, meaning, ← decide_not, Bool.eq_iff_iff, beq_iff_eq, decide_eq_true_eq]
  omega

theorem disappointed_of_equiv {σ} [BEq σ] [LawfulBEq σ] {T : Table} {a : Mon σ} {f : List Bool → Bool}
    (h : equivCheck (implMon T) a = true) (ha : ∀ l, a.run a.init l = !f l) (l : List Bool) :
    T.disappointed l = !f l :=
  (implMon_spec T l).symm.trans ((equiv_sound _ _ h l).trans (ha l))

theorem endsGood_of_equiv {T : Table} (h : equivCheck (implEndMon T) specFalse = true)
    (l : List Bool) (hd : T.disappointed l = false) : T.endsGood l = true := by
  have h1 := (implEndMon_spec T l).symm.trans ((equiv_sound _ _ h l).trans (specFalse_run l))
  rw [hd] at h1
  simpa using h1

end Shk
