import ShkModel.Lemmas.PrinterBasic
/-! Lemmas for C10: the audience as an association list (`getMember` / `putMember`), the
elementary operations of `parseAudience` in closed form, and the clauses `printCfg` emits for a
member (`chainOf`, `freeOf`) by kind. -/
namespace Shk.Printer
open Shk.Story (Act)

theorem getMember_name (c : Cfg) (n : String) : (getMember c n).name = n := by
  unfold getMember findMember
  cases h : c.members.find? (·.name == n) with
  | none => rfl
  | some m => simpa using List.find?_some h

theorem getMember_cases (c : Cfg) (n : String) :
    getMember c n ∈ c.members ∨ (getMember c n = { name := n } ∧ n ∉ c.members.map (·.name)) := by
  unfold getMember findMember
  cases h : c.members.find? (·.name == n) with
  | some m => exact .inl (List.mem_of_find?_eq_some h)
  | none => exact .inr ⟨rfl, by simpa using h⟩

theorem members_eq_map {c : Cfg} (h : (c.members.map (·.name)).Nodup) :
    c.members = (c.members.map (·.name)).map (getMember c) := by
  rw [List.map_map]
  exact (List.map_id _).symm.trans (List.map_congr_left fun x hx => by
    simp [getMember, findMember, find_of_mem_nodup (·.name) c.members x h hx])

theorem putIn_append {q : Member} : ∀ (pre rest : List Member), (∀ x ∈ pre, x.name ≠ q.name) →
    putIn q (pre ++ rest) = pre ++ putIn q rest
  | [], _, _ => rfl
  | x :: pre, rest, h => by
    rw [List.cons_append, putIn, if_neg (h x List.mem_cons_self),
      putIn_append pre rest fun y hy => h y (List.mem_cons_of_mem _ hy)]
    rfl

theorem put_cases (c : Cfg) (q : Member) :
    (q.name ∉ c.members.map (·.name) ∧ getMember c q.name = { name := q.name } ∧
      (putMember c q).members = c.members ++ [q]) ∨
    ∃ pre old post, c.members = pre ++ old :: post ∧ old.name = q.name ∧ (∀ x ∈ pre, x.name ≠ q.name) ∧
      getMember c q.name = old ∧ (putMember c q).members = pre ++ q :: post := by
  unfold getMember findMember putMember
  cases h : c.members.find? (·.name == q.name) with
  | none =>
    have hne : ∀ x ∈ c.members, x.name ≠ q.name := by simpa using h
    exact .inl ⟨fun hm => let ⟨x, hx, e⟩ := List.mem_map.mp hm; hne x hx e, rfl,
      by simpa [putIn] using putIn_append c.members [] hne⟩
  | some old =>
    obtain ⟨ho, pre, post, h0, hpre⟩ := List.find?_eq_some_iff_append.mp h
    have ho : old.name = q.name := by simpa using ho
    have hpre : ∀ x ∈ pre, x.name ≠ q.name := by simpa using hpre
    exact .inr ⟨pre, old, post, h0, ho, hpre, rfl, by simp [h0, putIn_append pre _ hpre, putIn, ho]⟩

theorem getMember_put (c : Cfg) (q : Member) (n : String) :
    getMember (putMember c q) n = if n = q.name then q else getMember c n := by
  unfold getMember findMember
  rcases put_cases c q with ⟨h1, _, h3⟩ | ⟨pre, old, post, h0, h1, h2, _, h4⟩
  · rw [h3, List.find?_append]
    by_cases hn : n = q.name
    · subst hn
      have : c.members.find? (·.name == q.name) = none := by simpa using h1
      simp [this]
    · have : (q.name == n) = false := beq_eq_false_iff_ne.mpr (Ne.symm hn)
      simp [hn, this]
  · rw [h4, h0, List.find?_append, List.find?_append]
    by_cases hn : n = q.name
    · subst hn
      have : pre.find? (·.name == q.name) = none := by simpa using h2
      simp [this]
    · have : (q.name == n) = false := beq_eq_false_iff_ne.mpr (Ne.symm hn)
      have : (old.name == n) = false := h1 ▸ this
      simp [*]

theorem names_put (c : Cfg) (q : Member) :
    (putMember c q).members.map (·.name) =
      if q.name ∈ c.members.map (·.name) then c.members.map (·.name)
      else c.members.map (·.name) ++ [q.name] := by
  rcases put_cases c q with ⟨h1, _, h3⟩ | ⟨pre, old, post, h0, h1, _, _, h4⟩
  · simp [h3, h1]
  · simp [h4, h0, h1]

theorem mem_put {c : Cfg} (hnd : (c.members.map (·.name)).Nodup) {q x : Member}
    (hx : x ∈ (putMember c q).members) : x = q ∨ (x ∈ c.members ∧ x.name ≠ q.name) := by
  rcases put_cases c q with ⟨h1, _, h3⟩ | ⟨pre, old, post, h0, h1, h2, _, h4⟩
  · rw [h3, List.mem_append, List.mem_singleton] at hx
    exact hx.symm.imp_right fun h => ⟨h, fun e => h1 (e ▸ List.mem_map_of_mem h)⟩
  · rw [h0, List.map_append, List.map_cons, List.nodup_append, List.nodup_cons] at hnd
    rw [h4, List.mem_append, List.mem_cons] at hx
    rw [h0]
    rcases hx with hx | rfl | hx
    · exact .inr ⟨by simp [hx], h2 x hx⟩
    · exact .inl rfl
    · exact .inr ⟨by simp [hx], fun e => hnd.2.1.1 (h1 ▸ e ▸ List.mem_map_of_mem hx)⟩

theorem mem_definedVars {c : Cfg} {v : String} :
    v ∈ definedVars c ↔ v ∈ predefined ∨ v ∈ targetsOf c.members := by
  simp [definedVars, targetsOf]

theorem mem_targetsOf {ms : List Member} {m : Member} {a : Assign} (hm : m ∈ ms) (ha : a ∈ m.assigns) :
    a.var ∈ targetsOf ms :=
  List.mem_flatMap.mpr ⟨m, hm, List.mem_map_of_mem ha⟩

theorem targets_put_perm {c : Cfg} {q : Member} {ex : List Assign}
    (ha : q.assigns = (getMember c q.name).assigns ++ ex) :
    (targetsOf (putMember c q).members).Perm (targetsOf c.members ++ ex.map (·.var)) := by
  rcases put_cases c q with ⟨_, hg, hp⟩ | ⟨pre, old, post, h0, _, _, hg, hp⟩
  · rw [hg] at ha
    simp [hp, targetsOf, ha]
  · rw [hg] at ha
    simp only [hp, h0, targetsOf, List.flatMap_append, List.flatMap_cons, ha, List.map_append,
      List.append_assoc]
    exact (List.perm_append_comm.append_left _).append_left _

def isSig : Var → Bool
  | .sig _ _ => true
  | .comp _ => false

/-- the observer list after the signals of an expression were added -/
def addSigs : List Var → List Var → List Var
  | obs, [] => obs
  | obs, .comp _ :: rest => addSigs obs rest
  | obs, .sig a s :: rest => addSigs (if obs.contains (.sig a s) then obs else obs ++ [.sig a s]) rest

def SigOk (c : Cfg) (a s : String) : Prop :=
  ∃ act r, findActor c a = some act ∧ findRole c act.role = some r ∧ roleHasSig r s = true

def VarOk (c : Cfg) : Var → Prop
  | .comp n => n ∈ definedVars c
  | .sig a s => SigOk c a s

theorem addObs_eq (m : Member) (v : Var) :
    addObs m v = { m with obs := if m.obs.contains v then m.obs else m.obs ++ [v] } := by
  unfold addObs; split <;> simp [*]

theorem mem_addObs {m : Member} {v x : Var} : x ∈ (addObs m v).obs ↔ x ∈ m.obs ∨ x = v := by
  rw [addObs_eq]
  by_cases h : v ∈ m.obs
  · simp only [List.contains_eq_mem, h, decide_true, if_true]
    exact ⟨.inl, fun h' => h'.elim id (· ▸ h)⟩
  · simp [h]

theorem nodup_addObs {m : Member} (v : Var) (h : m.obs.Nodup) : (addObs m v).obs.Nodup := by
  rw [addObs_eq]
  by_cases hv : v ∈ m.obs
  · simpa [hv] using h
  · simpa [hv, nodup_snoc] using h

theorem checkVar_iff (c : Cfg) (m m' : Member) (v : Var) :
    checkVar c m v = some m' ↔ VarOk c v ∧ m' = if isSig v then addObs m v else m := by
  cases v with
  | comp n =>
    by_cases h : n ∈ definedVars c <;> simp [checkVar, VarOk, isSig, h, eq_comm]
  | sig a s =>
    simp only [checkVar, VarOk, SigOk, isSig, if_true]
    constructor
    · intro h
      cases h1 : findActor c a with
      | none => simp [h1] at h
      | some act =>
        cases h2 : findRole c act.role with
        | none => simp [h1, h2] at h
        | some r =>
          simp only [h1, h2] at h
          split at h
          · exact ⟨⟨act, r, rfl, h2, ‹_›⟩, (Option.some.inj h).symm⟩
          · cases h
    · rintro ⟨⟨act, r, h1, h2, h3⟩, rfl⟩
      simp [h1, h2, h3]

theorem mem_addSigs {x : Var} : ∀ (vs obs : List Var),
    x ∈ addSigs obs vs ↔ x ∈ obs ∨ (x ∈ vs ∧ isSig x = true)
  | [], obs => by simp [addSigs]
  | .comp n :: vs, obs => by
    rw [addSigs, mem_addSigs vs, List.mem_cons]
    by_cases hx : x = .comp n
    · subst hx; simp [isSig]
    · simp [hx]
  | .sig a s :: vs, obs => by
    rw [addSigs, mem_addSigs vs, List.mem_cons]
    by_cases hx : x = .sig a s
    · subst hx; split <;> simp_all [isSig]
    · split <;> simp [hx]

theorem nodup_addSigs : ∀ (vs obs : List Var), obs.Nodup → (addSigs obs vs).Nodup
  | [], _, h => h
  | .comp _ :: vs, obs, h => nodup_addSigs vs obs h
  | .sig a s :: vs, obs, h => by
    rw [addSigs]
    split
    · exact nodup_addSigs vs obs h
    · rename_i hc
      exact nodup_addSigs vs _ (nodup_snoc.mpr ⟨h, by simpa using hc⟩)

theorem checkVars_iff (c : Cfg) : ∀ (vs : List Var) (m m' : Member),
    checkVars c m vs = some m' ↔ (∀ v ∈ vs, VarOk c v) ∧ m' = { m with obs := addSigs m.obs vs }
  | [], m, m' => by simpa [checkVars, addSigs] using eq_comm
  | v :: vs, m, m' => by
    rw [checkVars]
    cases h : checkVar c m v with
    | none =>
      have : ¬ VarOk c v := fun hv => by simpa [h] using (checkVar_iff c m _ v).mpr ⟨hv, rfl⟩
      simp [this]
    | some m1 =>
      obtain ⟨hv, rfl⟩ := (checkVar_iff c m m1 v).mp h
      simp only [checkVars_iff c vs, List.mem_cons, forall_eq_or_imp, hv, true_and]
      cases v <;> simp [isSig, addSigs, addObs_eq]

/-- every variable of the expression is known: what `checkExpr` checks -/
def ExOk (c : Cfg) (e : Ex) : Prop := ∀ v ∈ e.vars, VarOk c v

/-- the member after `checkExpr` accepted an expression on its behalf -/
def observing (m : Member) (e : Ex) : Member := { m with obs := addSigs m.obs e.vars }

theorem checkEx_iff (c : Cfg) (m m' : Member) (e : Ex) :
    checkEx c m e = some m' ↔ ExOk c e ∧ m' = observing m e :=
  checkVars_iff c e.vars m m'

theorem checkEx_cases (c : Cfg) (m : Member) (e : Ex) :
    (checkEx c m e = some (observing m e) ∧ ExOk c e) ∨
    (checkEx c m e = none ∧ ¬ ExOk c e) := by
  cases h : checkEx c m e with
  | none => exact .inr ⟨rfl, fun hv => by simpa [h] using (checkEx_iff c m _ e).mpr ⟨hv, rfl⟩⟩
  | some m' => obtain ⟨hv, rfl⟩ := (checkEx_iff c m m' e).mp h; exact .inl ⟨rfl, hv⟩

theorem pAudits_iff {c c' : Cfg} {n : String} {e : Ex} : pAudits c n e = some c' ↔
    (getMember c n).active = none ∧ ExOk c e ∧
      putMember c { observing (getMember c n) e with active := some e } = c' := by
  unfold pAudits
  cases (getMember c n).active with
  | some _ => simp
  | none => rcases checkEx_cases c (getMember c n) e with ⟨h, hv⟩ | ⟨h, hv⟩ <;> simp [h, hv]

theorem pAssign_iff {c c' : Cfg} {n : String} {a : Assign} : pAssign c n a = some c' ↔
    okAssign a = true ∧ ExOk c a.ex ∧ a.var ∉ definedVars c ∧
      putMember c { observing (getMember c n) a.ex with
        assigns := (getMember c n).assigns ++ [a] } = c' := by
  unfold pAssign
  rcases checkEx_cases c (getMember c n) a.ex with ⟨h, hv⟩ | ⟨h, hv⟩ <;>
    by_cases hok : okAssign a = true <;> by_cases hnew : a.var ∈ definedVars c <;>
    simp [h, hv, hok, hnew, observing]

theorem pExpects_iff {c c' : Cfg} {n md : String} {e : Ex} : pExpects c n md e = some c' ↔
    (getMember c n).expects = none ∧ ExOk c e ∧
      putMember c { observing (getMember c n) e with expects := some (md, e) } = c' := by
  unfold pExpects
  cases (getMember c n).expects with
  | some _ => simp
  | none => rcases checkEx_cases c (getMember c n) e with ⟨h, hv⟩ | ⟨h, hv⟩ <;> simp [h, hv]

theorem pWatchActor_iff {c c' : Cfg} {n a s : String} : pWatchActor c n a s = some c' ↔
    SigOk c a s ∧ putMember c (addObs (getMember c n) (.sig a s)) = c' := by
  have : pWatchActor c n a s = (checkVar c (getMember c n) (.sig a s)).map (putMember c) := by
    simp only [pWatchActor, checkVar]
    cases findActor c a with
    | none => rfl
    | some act =>
      dsimp only
      cases findRole c act.role with
      | none => rfl
      | some r => dsimp only; split <;> rfl
  simp [this, checkVar_iff, VarOk, isSig, and_assoc]

theorem pWatchVar_iff {c c' : Cfg} {n v : String} : pWatchVar c n v = some c' ↔
    v ∈ definedVars c ∧ putMember c (addObs (getMember c n) (.comp v)) = c' := by
  by_cases h : v ∈ definedVars c <;> simp [pWatchVar, h]

theorem pMeasures_iff {c c' : Cfg} {n l : String} : pMeasures c n l = some c' ↔
    l ≠ "" ∧ putMember c { getMember c n with ylabel := l } = c' := by
  by_cases h : l = "" <;> simp [pMeasures, h]

/-- the expression of an auditor clause -/
def exOf : AClause → Option Ex
  | .audits e => some e
  | .assign a => some a.ex
  | .expects _ e => some e
  | _ => none

def isExpectsC : AClause → Bool
  | .expects _ _ => true
  | _ => false

/-- all the clauses printed for a member -/
def canon (m : Member) : List AClause := chainOf m ++ freeOf m

theorem chainOf_eq_map (m : Member) : chainOf m =
    m.active.toList.map AClause.audits ++ m.assigns.map AClause.assign ++
      m.expects.toList.map fun p => AClause.expects p.1 p.2 := by
  unfold chainOf
  cases m.active <;> rcases m.expects with _ | ⟨md, e⟩ <;> rfl

theorem mem_chainOf {m : Member} {x : AClause} : x ∈ chainOf m ↔
    (∃ e, m.active = some e ∧ x = .audits e) ∨ (∃ a ∈ m.assigns, x = .assign a) ∨
    (∃ p, m.expects = some p ∧ x = .expects p.1 p.2) := by
  simp only [chainOf_eq_map, List.mem_append, List.mem_map, Option.mem_toList, or_assoc, eq_comm]

theorem mem_freeOf {m : Member} {x : AClause} : x ∈ freeOf m ↔
    (∃ v ∈ m.obs, x = watchClause v) ∨ (x = .measures m.ylabel ∧ m.ylabel ≠ "") ∨
    (x = .onlyHelps ∧ m.noplot = true) := by
  simp only [freeOf, List.mem_append, List.mem_map, List.mem_ite_nil_left, List.mem_ite_nil_right,
    List.mem_singleton, or_assoc, eq_comm, and_comm, ne_eq]

theorem chainOf_mem_of_assign {m : Member} {a : Assign} (h : a ∈ m.assigns) : AClause.assign a ∈ chainOf m :=
  mem_chainOf.mpr (.inr (.inl ⟨a, h, rfl⟩))

theorem chainOf_fresh (n : String) : chainOf { name := n } = [] := rfl
theorem freeOf_fresh (n : String) : freeOf { name := n } = [] := rfl

theorem isExpectsC_assign (a : Assign) : isExpectsC (.assign a) = false := rfl

theorem watchClause_inj {v w : Var} : watchClause v = watchClause w ↔ v = w := by
  cases v <;> cases w <;> simp [watchClause]

theorem watchClause_ne (v : Var) : (∀ l, watchClause v ≠ .measures l) ∧ watchClause v ≠ .onlyHelps := by
  cases v <;> simp [watchClause]

theorem watch_mem_freeOf {m : Member} {v : Var} : watchClause v ∈ freeOf m ↔ v ∈ m.obs := by
  simp [mem_freeOf, watchClause_inj, watchClause_ne]

theorem measures_mem_freeOf {m : Member} {l : String} :
    .measures l ∈ freeOf m ↔ l = m.ylabel ∧ l ≠ "" := by
  simp only [mem_freeOf, ((watchClause_ne _).1 l).symm, and_false, exists_false, reduceCtorEq, false_and,
    or_false, false_or, AClause.measures.injEq]
  exact ⟨fun ⟨h1, h2⟩ => ⟨h1, h1 ▸ h2⟩, fun ⟨h1, h2⟩ => ⟨h1, h1 ▸ h2⟩⟩

theorem helps_mem_freeOf {m : Member} : .onlyHelps ∈ freeOf m ↔ m.noplot = true := by
  simp [mem_freeOf, (watchClause_ne _).2.symm]

theorem mem_compVars {n : String} : ∀ {vs : List Var}, n ∈ compVars vs ↔ Var.comp n ∈ vs
  | [] => by simp [compVars]
  | .comp k :: vs => by simp [compVars, mem_compVars (vs := vs)]
  | .sig a s :: vs => by simp [compVars, mem_compVars (vs := vs)]

theorem chain_exOf {m : Member} {x : AClause} (h : x ∈ chainOf m) :
    ∃ e, exOf x = some e ∧ uses x = compVars e.vars := by
  rcases mem_chainOf.mp h with ⟨e, _, rfl⟩ | ⟨a, _, rfl⟩ | ⟨p, _, rfl⟩
  · exact ⟨e, rfl, rfl⟩
  · exact ⟨a.ex, rfl, rfl⟩
  · exact ⟨p.2, rfl, rfl⟩

theorem chain_not_watch {m : Member} {x : AClause} (h : x ∈ chainOf m) : isWatchA x = false := by
  rcases mem_chainOf.mp h with ⟨_, _, rfl⟩ | ⟨_, _, rfl⟩ | ⟨_, _, rfl⟩ <;> rfl

theorem free_facts {m : Member} {x : AClause} (h : x ∈ freeOf m) :
    defines x = none ∧ exOf x = none ∧ isExpectsC x = false := by
  rcases mem_freeOf.mp h with ⟨v, _, rfl⟩ | ⟨rfl, _⟩ | ⟨rfl, _⟩
  · cases v <;> exact ⟨rfl, rfl, rfl⟩
  · exact ⟨rfl, rfl, rfl⟩
  · exact ⟨rfl, rfl, rfl⟩

theorem watch_not_chain {v : Var} {m : Member} : watchClause v ∉ chainOf m := fun h => by
  have := chain_not_watch h
  cases v <;> cases this

/-- `chainOf` without the `expects` clause, which comes last -/
def chainHead (m : Member) : List AClause :=
  (match m.active with | some e => [AClause.audits e] | none => []) ++ m.assigns.map AClause.assign

def chainTail (m : Member) : List AClause :=
  match m.expects with | some (md, e) => [AClause.expects md e] | none => []

theorem chainOf_eq (m : Member) : chainOf m = chainHead m ++ chainTail m := by
  unfold chainOf chainHead chainTail
  rcases m.expects with _ | ⟨md, e⟩ <;> rfl

theorem chainHead_noexp {m : Member} {x : AClause} (h : x ∈ chainHead m) : isExpectsC x = false := by
  rcases List.mem_append.mp h with h | h
  · cases hm : m.active <;> simp [hm] at h; subst h; rfl
  · obtain ⟨a, -, rfl⟩ := List.mem_map.mp h; rfl

theorem chainTail_exp {m : Member} {x : AClause} (h : x ∈ chainTail m) : isExpectsC x = true := by
  unfold chainTail at h
  revert h
  rcases m.expects with _ | ⟨md, e⟩
  · nofun
  · exact fun h => by rw [List.mem_singleton.mp h]; rfl

theorem chainTail_length (m : Member) : (chainTail m).length ≤ 1 := by
  unfold chainTail
  rcases m.expects with _ | ⟨md, e⟩ <;> simp

theorem mem_chainHead {m : Member} {x : AClause} :
    x ∈ chainHead m ↔ x ∈ chainOf m ∧ isExpectsC x = false := by
  rw [chainOf_eq, List.mem_append]
  refine ⟨fun h => ⟨.inl h, chainHead_noexp h⟩, fun ⟨h, hx⟩ => h.resolve_right fun ht => ?_⟩
  simp [chainTail_exp ht] at hx

def assignsIn : List AClause → List Assign
  | [] => []
  | .assign a :: rest => a :: assignsIn rest
  | _ :: rest => assignsIn rest

def expectsIn : List AClause → Option (String × Ex)
  | [] => none
  | .expects md e :: _ => some (md, e)
  | _ :: rest => expectsIn rest

theorem assignsIn_append : ∀ (l r : List AClause), assignsIn (l ++ r) = assignsIn l ++ assignsIn r
  | [], _ => rfl
  | c :: l, r => by cases c <;> simp [assignsIn, assignsIn_append l r]

theorem expectsIn_append : ∀ (l r : List AClause),
    expectsIn (l ++ r) = (expectsIn l).or (expectsIn r)
  | [], _ => by simp [expectsIn]
  | c :: l, r => by cases c <;> simp [expectsIn, expectsIn_append l r]

theorem mem_assignsIn {a : Assign} : ∀ {l : List AClause}, a ∈ assignsIn l ↔ .assign a ∈ l
  | [] => by simp [assignsIn]
  | c :: l => by cases c <;> simp [assignsIn, mem_assignsIn (l := l)]

theorem assignsIn_cons_vars (c : AClause) (l : List AClause) :
    (assignsIn (c :: l)).map (·.var) = (defines c).toList ++ (assignsIn l).map (·.var) := by
  cases c <;> rfl

theorem mem_afterPrint {undef : List String} {c : AClause} {v : String} :
    v ∈ afterPrint undef c ↔ v ∈ undef ∧ v ∉ (defines c).toList := by
  unfold afterPrint
  cases defines c <;> simp

theorem assignsIn_chainOf (m : Member) : assignsIn (chainOf m) = m.assigns := by
  have : ∀ l : List Assign, assignsIn (l.map AClause.assign) = l := fun l => by
    induction l with
    | nil => rfl
    | cons a l ih => simp [assignsIn, ih]
  unfold chainOf
  rw [assignsIn_append, assignsIn_append, this]
  cases m.active <;> cases m.expects <;> simp [assignsIn]

theorem expectsIn_chainOf (m : Member) : expectsIn (chainOf m) = m.expects := by
  have : ∀ l : List Assign, expectsIn (l.map AClause.assign) = none := fun l => by
    induction l with
    | nil => rfl
    | cons a l ih => simp [expectsIn, ih]
  unfold chainOf
  rw [expectsIn_append, expectsIn_append, this]
  cases m.active <;> cases m.expects <;> simp [expectsIn]

end Shk.Printer
