import ShkModel.Lemmas.StopperState
/-! Invariants that tie each call's program counter to the log, the registries and the global state. -/
namespace Shk.Stopper

/-- what a step of call `i` does to its kind and program counter and to the three registries -/
structure ListSum (s s' : St) (i : Nat) (t : Thread) : Prop where
  thr : ∃ t', s'.threads = s.threads.set i t' ∧ t'.kind = t.kind ∧ (t.pc ≠ .init → t'.pc ≠ .init) ∧
    (t.kind = .closer → t.pc = .done → t'.pc = .done) ∧
    (t.kind = .closer → t'.pc = .init ∨ t'.pc = .cImm → t.pc = .init ∨ t.pc = .cImm)
  closers : s'.closers = s.closers ∨
    (s'.closers = s.closers ++ [i] ∧ t.kind = .closer ∧ (t.pc = .init ∨ t.pc = .cImm) ∧
      ∀ t', s'.threads = s.threads.set i t' → t'.pc = .done)
  qc : s'.qCancels = s.qCancels ∨ (s'.qCancels = s.qCancels ++ [i] ∧ t.kind = .wcq) ∨ s'.qCancels = s.qCancels.erase i
  sc : s'.sCancels = s.sCancels ∨ (s'.sCancels = s.sCancels ++ [i] ∧ t.kind = .wcs) ∨ s'.sCancels = s.sCancels.erase i

theorem Rule.lists {s s' : St} {i : Nat} {t : Thread} (h : Rule s i t s') (ht : s.threads[i]? = some t) :
    ListSum s s' i t := by
  -- not an AddCloser, not back to `init`: the two clauses about closers hold for lack of a premise
  have other : ∀ {k : Kind} {pc pc' : Pc} {r : Bool} {ts : List Thread}, (pc' != .init && k != .closer) = true → ts = s.threads.set i ⟨k, pc', r⟩ →
      ∃ t', ts = s.threads.set i t' ∧ t'.kind = k ∧ (pc ≠ .init → t'.pc ≠ .init) ∧
        (k = .closer → pc = .done → t'.pc = .done) ∧ (k = .closer → t'.pc = .init ∨ t'.pc = .cImm → pc = .init ∨ pc = .cImm) := by
    intro k pc pc' r ts h e
    simp only [Bool.and_eq_true, bne_iff_ne] at h
    exact ⟨_, e, rfl, fun _ => h.1, fun hk => absurd hk h.2, fun hk => absurd hk h.2⟩
  cases h
  case closerLate => exact ⟨⟨_, rfl, rfl, nofun, nofun, fun _ _ => .inl rfl⟩, .inl rfl, .inl rfl, .inl rfl⟩
  case closerAdd =>
    exact ⟨⟨_, rfl, rfl, nofun, nofun, fun _ _ => .inl rfl⟩,
      .inr ⟨rfl, rfl, .inl rfl, fun t' ht' => set_inj_of_lt (lt_length_of_getElem? ht) ht' ▸ rfl⟩, .inl rfl, .inl rfl⟩
  case closerNow => exact ⟨⟨_, rfl, rfl, nofun, fun _ _ => rfl, fun _ _ => .inr rfl⟩, .inl rfl, .inl rfl, .inl rfl⟩
  case wcqAdd => exact ⟨other rfl rfl, .inl rfl, .inr (.inl ⟨rfl, rfl⟩), .inl rfl⟩
  case wcsAdd => exact ⟨other rfl rfl, .inl rfl, .inl rfl, .inr (.inl ⟨rfl, rfl⟩)⟩
  case wcqCancel => exact ⟨other rfl rfl, .inl rfl, .inr (.inr rfl), .inl rfl⟩
  case wcsCancel => exact ⟨other rfl rfl, .inl rfl, .inl rfl, .inr (.inr rfl)⟩
  case ret => exact ⟨⟨_, rfl, rfl, id, fun _ => id, fun _ => id⟩, .inl rfl, .inl rfl, .inl rfl⟩
  all_goals exact ⟨other rfl rfl, .inl rfl, .inl rfl, .inl rfl⟩

structure ListsInv (s : St) : Prop where
  nodup : s.closers.Nodup
  closers_thr : ∀ c ∈ s.closers, ∃ t, s.threads[c]? = some t ∧ t.kind = .closer ∧ t.pc = .done
  q_thr : ∀ c ∈ s.qCancels, ∃ t, s.threads[c]? = some t ∧ t.kind = .wcq
  s_thr : ∀ c ∈ s.sCancels, ∃ t, s.threads[c]? = some t ∧ t.kind = .wcs
  fresh : ∀ j t, s.threads[j]? = some t → t.kind = .closer → (t.pc = .init ∨ t.pc = .cImm) → j ∉ s.closers

theorem lists_step {s s' : St} {i : Nat} {t : Thread} (ht : s.threads[i]? = some t) (sm : ListSum s s' i t)
    (ih : ListsInv s) : ListsInv s' := by
  obtain ⟨⟨t', hthr, hk, hni, hcd, hci⟩, hcl, hq, hs⟩ := sm
  obtain ⟨n1, n2, n3, n4, n5⟩ := ih
  have hi : s'.threads[i]? = some t' := by rw [hthr]; simp [lt_length_of_getElem? ht]
  have closers_old : ∀ c ∈ s.closers, ∃ t, s'.threads[c]? = some t ∧ t.kind = .closer ∧ t.pc = .done := fun c hc =>
    hthr ▸ exists_set ht (fun h => ⟨hk.trans h.1, hcd h.1 h.2⟩) (n2 c hc)
  -- cancel functions are added for the call itself and erased, never altered
  have reg : ∀ {K : Kind} {L L' : List Nat}, (L' = L ∨ (L' = L ++ [i] ∧ t.kind = K) ∨ L' = L.erase i) →
      (∀ c ∈ L, ∃ t, s.threads[c]? = some t ∧ t.kind = K) → ∀ c ∈ L', ∃ t, s'.threads[c]? = some t ∧ t.kind = K := by
    intro K L L' h old c hc
    have : c ∈ L ∨ (c = i ∧ t.kind = K) := by
      rcases h with h | ⟨h, hk'⟩ | h <;> rw [h] at hc
      · exact .inl hc
      · exact (List.mem_append.mp hc).imp_right fun hc => ⟨List.mem_singleton.mp hc, hk'⟩
      · exact .inl (List.mem_of_mem_erase hc)
    rcases this with hc | ⟨rfl, hk'⟩
    · exact hthr ▸ exists_set ht hk.trans (old c hc)
    · exact ⟨t', hi, hk.trans hk'⟩
  refine ⟨?_, ?_, reg hq n3, reg hs n4, ?_⟩
  · rcases hcl with h | ⟨h, hkc, hpc, _⟩ <;> rw [h]
    · exact n1
    · refine List.nodup_append.mpr ⟨n1, (by simp), ?_⟩
      intro a ha b hb hab
      cases List.mem_singleton.mp hb
      exact n5 i t ht hkc hpc (hab ▸ ha)
  · intro c hc
    rcases hcl with h | ⟨h, hkc, hpc, hdone⟩ <;> rw [h] at hc
    · exact closers_old c hc
    · rcases List.mem_append.mp hc with hc | hc
      · exact closers_old c hc
      · cases List.mem_singleton.mp hc
        exact ⟨t', hi, hk.trans hkc, hdone t' hthr⟩
  · intro j tj hj hkj hpj hm
    rw [hthr] at hj
    -- it was not registered before the step, and if it is the call that moves, it has not reached `done`
    have hold : j ∉ s.closers ∧ (j = i → tj = t') := by
      rcases getElem?_set_cases hj with ⟨rfl, rfl, _⟩ | ⟨hne, hj⟩
      · exact ⟨n5 j t ht (hk ▸ hkj) (hci (hk ▸ hkj) hpj), fun _ => rfl⟩
      · exact ⟨n5 j tj hj hkj hpj, fun e => absurd e hne⟩
    rcases hcl with h | ⟨h, _, _, hdone⟩ <;> rw [h] at hm
    · exact hold.1 hm
    · rcases List.mem_append.mp hm with hm | hm
      · exact hold.1 hm
      · rw [hold.2 (List.mem_singleton.mp hm), hdone t' hthr] at hpj
        rcases hpj with h | h <;> cases h

theorem lists_reach {cap : Nat} {s : St} (h : Reach cap s) : ListsInv s := by
  induction h using Reach.rules with
  | init => refine ⟨List.nodup_nil, ?_, ?_, ?_, ?_⟩ <;> simp [init]
  | spawn s k _ ih =>
    obtain ⟨n1, n2, n3, n4, n5⟩ := ih
    refine ⟨n1, fun c hc => exists_spawn k (n2 c hc), fun c hc => exists_spawn k (n3 c hc),
      fun c hc => exists_spawn k (n4 c hc), fun j tj hj hkj hpj => ?_⟩
    rcases getElem?_spawn hj with hj | ⟨rfl, _⟩
    · exact n5 j tj hj hkj hpj
    · intro hm
      obtain ⟨t, h1, _⟩ := n2 _ hm
      exact Nat.lt_irrefl _ (lt_length_of_getElem? h1)
  | step s s' i t _ _ ht r ih => exact lists_step ht (r.lists ht) ih

/-- every entry is about an existing call: needed to see that a new call's number is fresh -/
def IdsInv (s : St) : Prop := ∀ e ∈ s.log, e.id < s.threads.length

def EvKindInv (s : St) : Prop := ∀ e ∈ s.log, e.k ≠ .mark → ∃ t, s.threads[e.id]? = some t ∧ t.kind.code = e.c

/-- `IdsInv` and `EvKindInv` are the two halves of this -/
theorem known_reach {cap : Nat} {s : St} (h : Reach cap s) :
    ∀ e ∈ s.log, ∃ t, s.threads[e.id]? = some t ∧ (e.k ≠ .mark → t.kind.code = e.c) := by
  induction h using Reach.rules with
  | init => exact List.forall_mem_nil _
  | spawn s k _ ih =>
    intro e he
    rcases List.mem_append.mp he with he | he
    · exact exists_spawn k (ih e he)
    · cases List.mem_singleton.mp he
      exact ⟨{ kind := k }, by simp [spawn, St.ev], fun _ => rfl⟩
  | step s s' i t hr _ ht r ih =>
    have li := lists_reach hr
    obtain ⟨es, hl, hn⟩ := r.news
    obtain ⟨t', hthr, hk, _⟩ := (r.lists ht).thr
    intro e he
    rw [hl] at he
    refine hthr ▸ exists_set ht (fun h hm => (congrArg Kind.code hk).trans (h hm)) ?_
    rcases List.mem_append.mp he with he | he
    · exact ih e he
    · rcases (hn e he).1 with ⟨h, hc⟩ | ⟨_, hc, h⟩ | ⟨_, hc, h⟩ | ⟨_, hc, h⟩
      · exact ⟨t, h ▸ ht, fun hm => (hc.resolve_left hm).symm⟩
      · exact (li.closers_thr _ h).imp fun _ h' => ⟨h'.1, fun _ => by rw [h'.2.1, hc]; rfl⟩
      · exact (li.q_thr _ h).imp fun _ h' => ⟨h'.1, fun _ => by rw [h'.2, hc]; rfl⟩
      · exact (li.s_thr _ h).imp fun _ h' => ⟨h'.1, fun _ => by rw [h'.2, hc]; rfl⟩

theorem ids_reach {cap : Nat} {s : St} (h : Reach cap s) : IdsInv s := fun e he =>
  (known_reach h e he).elim fun _ h => lt_length_of_getElem? h.1

theorem evkind_reach {cap : Nat} {s : St} (h : Reach cap s) : EvKindInv s := fun e he hm =>
  (known_reach h e he).imp fun _ h => ⟨h.1, h.2 hm⟩

theorem has_fresh {s : St} (ids : IdsInv s) (k : EK) : has s.log k s.threads.length = false := by
  apply Bool.eq_false_iff.mpr
  intro hh
  obtain ⟨e, he, _, hid⟩ := exists_of_has hh
  exact absurd (ids e he) (hid ▸ Nat.lt_irrefl _)

/-- the log says of call `i` what its state says -/
structure TInv (l : List Ev) (i : Nat) (t : Thread) : Prop where
  call : ∃ e, callOf l i = some e ∧ e.c = t.kind.code ∧ (wasAccepted t = true → e.q = false)
  ret : has l .ret i = t.ret
  retv : ∀ v, hasV l .ret i v = true → v = retCode t.pc
  retable : t.ret = true → (retVal t.kind t.pc).isSome = true
  bs : has l .bodyStart i = started t
  be : has l .bodyEnd i = bodyDone t
  ws : has l .wStart i = wStarted t
  we : has l .wEnd i = wDone t

theorem TInv.ret_ne {l : List Ev} {i : Nat} {t : Thread} (ti : TInv l i t) {v : Nat} (hv : v ≠ retCode t.pc) :
    hasV l .ret i v = false :=
  Bool.eq_false_iff.mpr fun hh => hv (ti.retv v hh)

def ThreadsInv (s : St) : Prop := ∀ j t, s.threads[j]? = some t → TInv s.log j t

/-- `TInv` when call `j` moves from `t` to `t'` and `es` is appended: each `has` grows by what `es` holds about `j`; a call
accepted only now (`acc`) finds `q` unset, and `q` bounds what the entries so far have seen of the quiescer (`fl`) -/
theorem tinv_append {l es : List Ev} {j : Nat} {t t' : Thread} {q : Bool} (ih : TInv l j t)
    (fl : ∀ e ∈ l, e.q = true → q = true) (mk : t'.kind = t.kind)
    (hr : (t.ret || has es .ret j) = t'.ret) (hrv : ∀ v, hasV es .ret j v = true → retVal t.kind t'.pc = some v)
    (hbs : (started t || has es .bodyStart j) = started t') (hbe : (bodyDone t || has es .bodyEnd j) = bodyDone t')
    (hws : (wStarted t || has es .wStart j) = wStarted t') (hwe : (wDone t || has es .wEnd j) = wDone t')
    (acc : (wasAccepted t' && !wasAccepted t && q) = false)
    (rv : ∀ v, retVal t.kind t.pc = some v → retVal t.kind t'.pc = some v) : TInv (l ++ es) j t' := by
  obtain ⟨⟨e, h1, h1c, h1q⟩, h2, h3, h4, h5, h6, h7, h8⟩ := ih
  refine ⟨⟨e, by rw [callOf_append, h1]; rfl, mk ▸ h1c, fun ha => ?_⟩, by rw [has_append, h2, hr], fun v hv => ?_,
    fun hr' => ?_, by rw [has_append, h5, hbs], by rw [has_append, h6, hbe], by rw [has_append, h7, hws],
    by rw [has_append, h8, hwe]⟩
  · cases hw : wasAccepted t
    · have hq : q = false := by simpa [ha, hw] using acc
      cases he : e.q
      · rfl
      · exact Bool.noConfusion (hq.symm.trans (fl e (callOf_mem h1).1 he))
    · exact h1q hw
  · rw [hasV_append, Bool.or_eq_true] at hv
    rcases hv with hv | hv
    · obtain ⟨v0, h0⟩ := Option.isSome_iff_exists.mp (h4 (h2.symm.trans (has_of_hasV hv)))
      rw [h3 v hv, ← retVal_code h0, retVal_code (rv v0 h0)]
    · exact retVal_code (hrv v hv)
  · rw [mk]
    rw [← hr, Bool.or_eq_true] at hr'
    rcases hr' with hr' | hr'
    · obtain ⟨v0, h0⟩ := Option.isSome_iff_exists.mp (h4 hr')
      rw [rv v0 h0]; rfl
    · obtain ⟨e, he, hk, hid⟩ := exists_of_has hr'
      rw [hrv e.v (hk ▸ hid ▸ hasV_of_mem he)]; rfl

theorem TInv.frame {l es : List Ev} {j : Nat} {t : Thread} (ih : TInv l j t)
    (z : ∀ {k}, k ≠ .closer ∧ k ≠ .cancelled → has es k j = false) : TInv (l ++ es) j t :=
  tinv_append (q := true) ih (fun _ _ _ => rfl) rfl (by rw [z (by decide), Bool.or_false])
    (fun v hv => by rw [hasV_false_of_has (z (by decide))] at hv; cases hv) (by rw [z (by decide), Bool.or_false])
    (by rw [z (by decide), Bool.or_false]) (by rw [z (by decide), Bool.or_false]) (by rw [z (by decide), Bool.or_false])
    (by cases wasAccepted t <;> rfl) fun _ => id

theorem has_new {s s' : St} {i c : Nat} {es : List Ev} (hn : ∀ e ∈ es, New s s' i c e) {k : EK}
    (hk : k ≠ .closer ∧ k ≠ .cancelled) (j : Nat) : has es k j = (hasK es k && i == j) := by
  induction es with
  | nil => rfl
  | cons e es ih =>
    have : (e.k == k && e.id == j) = (e.k == k && i == j) := by
      rcases (hn e List.mem_cons_self).1 with ⟨h, _⟩ | ⟨h, _⟩ | ⟨h, _⟩ | ⟨h, _⟩
      · rw [h]
      · rw [h, beq_false_of_ne (Ne.symm hk.1)]; rfl
      · rw [h, beq_false_of_ne (Ne.symm hk.2)]; rfl
      · rw [h, beq_false_of_ne (Ne.symm hk.2)]; rfl
    rw [has_cons, ih fun x hx => hn x (List.mem_cons_of_mem _ hx), this]
    simp only [hasK, List.any_cons]
    cases e.k == k <;> simp

/-- a step other than its return: each entry `TInv` speaks of comes exactly with the states that go with it -/
structure Moved (q : Bool) (es : List Ev) (t t' : Thread) : Prop where
  kind : t'.kind = t.kind
  ret : t'.ret = t.ret
  noret : hasK es .ret = false
  bs : (started t || hasK es .bodyStart) = started t'
  be : (bodyDone t || hasK es .bodyEnd) = bodyDone t'
  ws : (wStarted t || hasK es .wStart) = wStarted t'
  we : (wDone t || hasK es .wEnd) = wDone t'
  acc : (wasAccepted t' && !wasAccepted t && q) = false
  rv : (retVal t.kind t.pc).all (fun v => retVal t.kind t'.pc == some v) = true

theorem Rule.moved {s s' : St} {i : Nat} {t : Thread} (h : Rule s i t s') :
    (∃ k pc v, t = ⟨k, pc, false⟩ ∧ retVal k pc = some v ∧ s' = s.upd i ⟨k, pc, true⟩ [s.ev .ret i k.code v]) ∨
    ∃ t' es, s'.threads = s.threads.set i t' ∧ s'.log = s.log ++ es ∧ Moved s.quiescing es t t' := by
  have hq : ∀ x {k}, k ≠ .cancelled → k ≠ .mark → hasK (s.quiesceEvs x) k = false := hasK_quiesceEvs s
  cases h
  case ret k pc v hv => exact .inl ⟨k, pc, v, rfl, hv, rfl⟩
  all_goals right
  case accept q | acceptA q | acceptL q => exact ⟨_, _, rfl, rfl, rfl, rfl, rfl, rfl, rfl, rfl, rfl, by rw [q]; rfl, rfl⟩
  case quiesce | stopQuiesce =>
    exact ⟨_, _, rfl, rfl, rfl, rfl, hq _ (by decide) (by decide), by rw [hq _ (by decide) (by decide)]; rfl,
      by rw [hq _ (by decide) (by decide)]; rfl, by rw [hq _ (by decide) (by decide)]; rfl,
      by rw [hq _ (by decide) (by decide)]; rfl, rfl, rfl⟩
  case stopClose =>
    refine ⟨_, _, rfl, rfl, rfl, rfl, ?_, ?_, ?_, ?_, ?_, rfl, rfl⟩ <;>
      rw [hasK, List.any_append, ← hasK, hasK_cancelEvs _ _ _ (by decide)] <;> rfl
  all_goals exact ⟨_, _, rfl, rfl, rfl, rfl, rfl, rfl, rfl, rfl, rfl, rfl, rfl⟩

theorem Rule.tinv_frame {s s' : St} {i j : Nat} {t tj : Thread} (h : Rule s i t s') (hj : j ≠ i) (ih : TInv s.log j tj) :
    TInv s'.log j tj := by
  obtain ⟨es, hl, hn⟩ := h.news
  exact hl ▸ ih.frame fun hk => by rw [has_new hn hk, beq_false_of_ne (Ne.symm hj), Bool.and_false]

theorem Rule.tinv_own {s s' : St} {i : Nat} {t : Thread} (h : Rule s i t s') (fl : FlagsInv s) (ih : TInv s.log i t) :
    ∃ t', s'.threads = s.threads.set i t' ∧ TInv s'.log i t' := by
  have fl' : ∀ e ∈ s.log, e.q = true → s.quiescing = true := fun e he => (fl e he).1
  rcases h.moved with ⟨k, pc, v, rfl, hv, rfl⟩ | ⟨t', es, hthr, hl, m⟩
  · refine ⟨_, rfl, tinv_append ih fl' rfl ?_ (fun v' hv' => ?_) (Bool.or_false _) (Bool.or_false _) (Bool.or_false _)
      (Bool.or_false _) ?_ fun _ => id⟩
    · simp [St.ev]
    · simp [St.ev] at hv'; exact hv' ▸ hv
    · exact (congrArg (· && _) (Bool.and_not_self _)).trans (Bool.false_and _)
  · obtain ⟨es', hl', hn⟩ := h.news
    cases List.append_cancel_left (hl.symm.trans hl')
    have hs : ∀ {k}, k ≠ .closer ∧ k ≠ .cancelled → has es k i = hasK es k := fun hk => by
      rw [has_new hn hk, beq_self_eq_true, Bool.and_true]
    refine ⟨t', hthr, hl ▸ tinv_append ih fl' m.kind ?_ (fun v hv => ?_) ?_ ?_ ?_ ?_ m.acc fun v hv => ?_⟩
    · rw [hs (by decide), m.noret, m.ret]; exact Bool.or_false _
    · rw [hasV_false_of_has (by rw [hs (by decide), m.noret])] at hv; cases hv
    · rw [hs (by decide)]; exact m.bs
    · rw [hs (by decide)]; exact m.be
    · rw [hs (by decide)]; exact m.ws
    · rw [hs (by decide)]; exact m.we
    · have := m.rv; rw [hv] at this; exact beq_iff_eq.mp this

theorem tinv_spawn {s : St} (ids : IdsInv s) (k : Kind) : TInv (spawn s k).log s.threads.length { kind := k } := by
  have hno := has_fresh ids
  refine ⟨⟨s.ev .call s.threads.length k.code 0, ?_, rfl, by simp [wasAccepted]⟩, ?_, fun v hv => ?_, nofun, ?_, ?_, ?_, ?_⟩
  · simp only [spawn]
    rw [callOf_append, callOf_none_of_not_has (hno _)]
    simp [callOf, St.ev]
  all_goals simp [spawn, hno, St.ev, hasV_false_of_has (hno _), started, bodyDone, wStarted, wDone] at *

theorem threads_reach {cap : Nat} {s : St} (h : Reach cap s) : ThreadsInv s :=
  h.calls (fun s k hr => tinv_spawn (ids_reach hr) k)
    (fun s k j t _ hj h => h.frame fun _ => by simp [St.ev, Nat.ne_of_gt (lt_length_of_getElem? hj)])
    (fun _ _ _ _ hr _ r h => r.tinv_own (flags_reach hr) h) fun _ _ _ _ _ _ _ _ r hne _ h => r.tinv_frame hne h

theorem thread_of {s : St} (evk : EvKindInv s) (thr : ThreadsInv s) {p : Ev} (hp : p ∈ s.log) (hm : p.k ≠ .mark) :
    ∃ t, s.threads[p.id]? = some t ∧ t.kind.code = p.c ∧ TInv s.log p.id t := by
  obtain ⟨t, ht, hc⟩ := evk p hp hm
  exact ⟨t, ht, hc, thr p.id t ht⟩

theorem returned {s : St} (evk : EvKindInv s) (thr : ThreadsInv s) {p : Ev} (hp : p ∈ s.log) (hk : p.k = .ret) :
    ∃ t, s.threads[p.id]? = some t ∧ t.kind.code = p.c ∧ TInv s.log p.id t ∧ (retVal t.kind t.pc).isSome = true := by
  obtain ⟨t, ht, hc, ti⟩ := thread_of evk thr hp (by rw [hk]; decide)
  exact ⟨t, ht, hc, ti, ti.retable (by rw [← ti.ret, ← hk]; exact has_of_mem hp)⟩

/-- the log holds the `call` entry of a Stop other than `j`: what `kindOk` asks when Stop returns before `stopped` closes -/
def otherStop (l : List Ev) (j : Nat) : Bool := l.any fun p => p.k == .call && p.c == 9 && p.id != j

theorem otherStop_append {l : List Ev} {j : Nat} (h : otherStop l j = true) (m : List Ev) : otherStop (l ++ m) j = true := by
  simp only [otherStop] at h ⊢
  rw [List.any_append, h]; rfl

/-- whoever set `stopCalled` is a Stop call past `init`; its `call` entry is the one `otherStop` finds -/
def StopSeen (s : St) : Prop :=
  s.stopCalled = true → ∃ (j : Nat) (t : Thread), s.threads[j]? = some t ∧ t.kind = .stop ∧ t.pc ≠ .init

theorem seen_reach {cap : Nat} {s : St} (h : Reach cap s) : StopSeen s := by
  induction h using Reach.rules with
  | init => exact nofun
  | spawn s k _ ih => exact fun hc => (ih hc).imp fun _ h => exists_spawn k h
  | step s s' i t _ _ ht r ih =>
    obtain ⟨t', hthr, hk, hni, _⟩ := (r.lists ht).thr
    -- only the Stop call that becomes effective sets `stopCalled`, and it has left `init`
    have new : s'.stopCalled = true → s.stopCalled = true ∨ (t'.kind = .stop ∧ t'.pc ≠ .init) := by
      cases r
      case stopBegin => cases set_inj_of_lt (lt_length_of_getElem? ht) hthr; exact fun _ => .inr ⟨rfl, nofun⟩
      all_goals exact .inl
    intro hc
    rw [hthr]
    rcases new hc with h1 | hp
    · exact (ih h1).imp fun _ h => exists_set ht (fun h => ⟨hk.trans h.1, hni h.2⟩) h
    · exact ⟨i, t', by simp [lt_length_of_getElem? ht], hp⟩

/-- a Stop call that finds `stopCalled` set is not the one that set it, and that one's `call` entry is in the log -/
theorem StopSeen.other {s : St} (seen : StopSeen s) (thr : ThreadsInv s) {i : Nat} {t : Thread} (ht : s.threads[i]? = some t)
    (hc : s.stopCalled = true) (hpc : t.pc = .init) : otherStop s.log i = true := by
  obtain ⟨j, tj, hj, hk, hp⟩ := seen hc
  obtain ⟨e, he, hec, _⟩ := (thr j tj hj).call
  obtain ⟨hmem, hek, hid⟩ := callOf_mem he
  have hji : j ≠ i := by
    rintro rfl; rw [ht] at hj; cases hj; exact hp hpc
  simp only [otherStop, List.any_eq_true]
  refine ⟨e, hmem, ?_⟩
  rw [hk] at hec
  simp [hek, hec, hid, Kind.code, hji]

/-- what a program counter tells about the global state, and no later step undoes -/
structure SInv (s : St) (j : Nat) (t : Thread) : Prop where
  qq : t.kind = .quiesce → (t.pc = .qWait ∨ t.pc = .done) → s.quiescing = true
  qd : t.kind = .quiesce → t.pc = .done → s.numTasks = 0
  sd : t.kind = .stop → t.pc = .done → s.dClosed = true
  sn : t.kind = .stop → t.pc = .sNoop → otherStop s.log j = true
  fu : (t.pc = .failU ∨ t.pc = .refHold) → s.quiescing = true
  ci : t.pc = .cImm → s.sClosed = true

def StableInv (s : St) : Prop := ∀ j t, s.threads[j]? = some t → SInv s j t

/-- the clause of `SInv` for kind `k` at `pc`, the only one a rule that leads there has to show -/
def SInv.at (s : St) (j : Nat) : Kind → Pc → Prop
  | .quiesce, .qWait => s.quiescing = true
  | .quiesce, .done => s.quiescing = true ∧ s.numTasks = 0
  | .stop, .done => s.dClosed = true
  | .stop, .sNoop => otherStop s.log j = true
  | _, .failU | _, .refHold => s.quiescing = true
  | _, .cImm => s.sClosed = true
  | _, _ => True

theorem SInv.of_at {s : St} {j : Nat} {k : Kind} {pc : Pc} {r : Bool} (h : SInv.at s j k pc) : SInv s j ⟨k, pc, r⟩ := by
  unfold SInv.at at h
  split at h <;> constructor <;> simp_all

theorem sinv_frame {s s' : St} {j : Nat} {t : Thread} (m : Mono s s') (hl : ∃ es, s'.log = s.log ++ es) (h : SInv s j t) :
    SInv s' j t := by
  obtain ⟨h1, h2, h3, h4, h5, h6⟩ := h
  obtain ⟨es, hl⟩ := hl
  exact ⟨fun a b => m.q (h1 a b), fun a b => m.tasks0 (h1 a (Or.inr b)) (h2 a b), fun a b => m.dc (h3 a b),
    fun a b => hl ▸ otherStop_append (h4 a b) es, fun a => m.q (h5 a), fun a => m.sc (h6 a)⟩

theorem Rule.sinv {s s' : St} {i : Nat} {t : Thread} (h : Rule s i t s') (p : Ph s)
    (hstop : s.stopCalled = true → t.pc = .init → otherStop s.log i = true)
    (ih : SInv s i t) : ∃ t', s'.threads = s.threads.set i t' ∧ SInv s' i t' := by
  cases h
  case refuse q | refuseA q | giveUp q | refuseL q => exact ⟨_, rfl, .of_at q⟩
  case giveBack => exact ⟨_, rfl, .of_at (ih.fu (.inr rfl))⟩
  case closerLate c => exact ⟨_, rfl, .of_at c⟩
  case quiesce => exact ⟨_, rfl, .of_at rfl⟩
  case quiesced n => exact ⟨_, rfl, .of_at ⟨ih.qq rfl (.inl rfl), n⟩⟩
  case stopNoop c => exact ⟨_, rfl, .of_at (otherStop_append (hstop c rfl) [])⟩
  case stopReturn sp => exact ⟨_, rfl, .of_at (show s.dClosed = true by rw [p.dclosed, sp]; rfl)⟩
  case ret => exact ⟨_, rfl, ih.1, ih.2, ih.3, fun a b => otherStop_append (ih.4 a b) _, ih.5, ih.6⟩
  all_goals exact ⟨_, rfl, .of_at trivial⟩

theorem stable_reach {cap : Nat} {s : St} (h : Reach cap s) : StableInv s :=
  h.calls (fun s k _ => by constructor <;> simp) (fun s k _ _ _ _ h => sinv_frame (mono_spawn s k) ⟨_, rfl⟩ h)
    (fun _ _ _ _ hr ht r h => r.sinv (ph_reach hr) ((seen_reach hr).other (threads_reach hr) ht) h)
    fun _ _ _ _ _ _ _ _ r _ _ h => sinv_frame r.mono (r.news.imp fun _ h => h.1) h

/-- a context from WithCancelOnQuiesce / WithCancelOnStop is cancelled, or still registered with the channel open -/
structure CInv (s : St) (j : Nat) (t : Thread) : Prop where
  q : t.kind = .wcq → t.pc ≠ .init → has s.log .cancelled j = true ∨ (j ∈ s.qCancels ∧ s.quiescing = false)
  sc : t.kind = .wcs → t.pc ≠ .init → has s.log .cancelled j = true ∨ (j ∈ s.sCancels ∧ s.sClosed = false)

def CancelInv (s : St) : Prop := ∀ j t, s.threads[j]? = some t → CInv s j t

theorem CInv.fires {s : St} {j : Nat} {t : Thread} (c : CInv s j t) (hp : t.pc ≠ .init) :
    (t.kind = .wcq → s.quiescing = true → has s.log .cancelled j = true) ∧
    (t.kind = .wcs → s.sClosed = true → has s.log .cancelled j = true) :=
  ⟨fun hk hq => (c.q hk hp).resolve_right fun g => Bool.noConfusion (g.2.symm.trans hq),
    fun hk hq => (c.sc hk hp).resolve_right fun g => Bool.noConfusion (g.2.symm.trans hq)⟩

/-- the clause of `CInv` for kind `k` at `pc` (as `SInv.at` for `SInv`) -/
def CInv.at (s : St) (j : Nat) : Kind → Pc → Prop
  | .wcq, .init | .wcs, .init => True
  | .wcq, _ => has s.log .cancelled j = true ∨ (j ∈ s.qCancels ∧ s.quiescing = false)
  | .wcs, _ => has s.log .cancelled j = true ∨ (j ∈ s.sCancels ∧ s.sClosed = false)
  | _, _ => True

theorem CInv.of_at {s : St} {j : Nat} {k : Kind} {pc : Pc} {r : Bool} (h : CInv.at s j k pc) : CInv s j ⟨k, pc, r⟩ := by
  unfold CInv.at at h
  split at h <;> constructor <;> simp_all

theorem Rule.cinv_frame {s s' : St} {i j : Nat} {ti t : Thread} (r : Rule s i ti s') (ht : s.threads[i]? = some ti)
    (hji : j ≠ i) (h : CInv s j t) : CInv s' j t := by
  obtain ⟨es, hl, _⟩ := r.news
  -- still registered after the step, unless that closes the channel, and then it fires
  have reg : ∀ {L L' : List Nat} {c c' : Bool} {P : Prop}, (L' = L ∨ (L' = L ++ [i] ∧ P) ∨ L' = L.erase i) →
      (c' = c ∨ ∀ x ∈ L, has s'.log .cancelled x = true) →
      has s.log .cancelled j = true ∨ (j ∈ L ∧ c = false) → has s'.log .cancelled j = true ∨ (j ∈ L' ∧ c' = false) := by
    intro L L' c c' P hL hc h
    rcases h with h1 | ⟨h1, h2⟩
    · left; rw [hl, has_append, h1]; rfl
    · rcases hc with hc | hc
      · right
        refine ⟨?_, hc ▸ h2⟩
        rcases hL with e | ⟨e, _⟩ | e <;> rw [e]
        · exact h1
        · exact List.mem_append_left _ h1
        · exact (List.mem_erase_of_ne hji).mpr h1
      · exact .inl (hc j h1)
  exact ⟨fun hk hp => reg (r.lists ht).qc r.fire.1 (h.q hk hp), fun hk hp => reg (r.lists ht).sc r.fire.2 (h.sc hk hp)⟩

theorem Rule.cinv {s s' : St} {i : Nat} {t : Thread} (h : Rule s i t s') (ih : CInv s i t) :
    ∃ t', s'.threads = s.threads.set i t' ∧ CInv s' i t' := by
  cases h
  case wcqNow | wcsNow | wcqCancel | wcsCancel => exact ⟨_, rfl, .of_at (.inl (by simp [St.upd, St.ev]))⟩
  case wcqAdd q => exact ⟨_, rfl, .of_at (.inr ⟨List.mem_append_right _ (List.mem_singleton_self i), q⟩)⟩
  case wcsAdd c => exact ⟨_, rfl, .of_at (.inr ⟨List.mem_append_right _ (List.mem_singleton_self i), c⟩)⟩
  case ret =>
    exact ⟨_, rfl, fun a b => (ih.q a b).imp_left fun h => by simp [St.upd, h],
      fun a b => (ih.sc a b).imp_left fun h => by simp [St.upd, h]⟩
  all_goals exact ⟨_, rfl, .of_at trivial⟩

theorem cancel_reach {cap : Nat} {s : St} (h : Reach cap s) : CancelInv s :=
  h.calls (fun s k _ => by constructor <;> simp)
    (fun s k _ _ _ _ h =>
      ⟨fun a b => (h.q a b).imp_left fun h => by simp [spawn, h], fun a b => (h.sc a b).imp_left fun h => by simp [spawn, h]⟩)
    (fun _ _ _ _ _ _ r h => r.cinv h) fun _ _ _ _ _ _ _ ht r hne _ h => r.cinv_frame ht hne h

/-- the closers that the effective Stop has already called -/
def calledPrefix (s : St) : List Nat :=
  match s.sp with
  | .closers k => s.closers.take k
  | .fin => s.closers
  | _ => []

theorem calledPrefix_nil {s : St} (h : s.sp.rank < 5) : calledPrefix s = [] := by
  rw [calledPrefix]; cases hs : s.sp <;> first | rfl | simp [hs] at h

/-- what a step does to the closers: nothing; AddCloser registers one; AddCloser calls one at once; the effective Stop
calls the next registered one -/
inductive CSum (s s' : St) (i : Nat) (t t' : Thread) : Prop
  | plain (es : List Ev) (hl : s'.log = s.log ++ es) (hes : ∀ x, has es .closer x = false) (hcl : s'.closers = s.closers)
      (hpre : calledPrefix s' = calledPrefix s) (hpc : (t.kind != .closer || (t'.pc == .done) == (t.pc == .done)) = true)
  | register (hl : s'.log = s.log) (hcl : s'.closers = s.closers ++ [i])
      (hpre : calledPrefix s' = []) (hpre0 : calledPrefix s = []) (hk : t.kind = .closer) (hpc : t.pc = .init)
  | imm (hk : t.kind = .closer) (hpc : t.pc = .cImm) (hlog : ∀ x, has s'.log .closer x = (has s.log .closer x || i == x))
      (hcl : s'.closers = s.closers) (hpre : calledPrefix s' = calledPrefix s) (hpc' : t'.pc = .done)
  | loop (k c : Nat) (hsp : s.sp = .closers k) (hc : s.closers[k]? = some c) (hsp' : s'.sp = .closers (k + 1))
      (hcl : s'.closers = s.closers) (hlog : ∀ x, has s'.log .closer x = (has s.log .closer x || c == x)) (hk : t.kind = .stop)

theorem Rule.csum {s s' : St} {i : Nat} {t : Thread} (h : Rule s i t s') (p : Ph s) :
    ∃ t', s'.threads = s.threads.set i t' ∧ t'.kind = t.kind ∧ CSum s s' i t t' := by
  have hq := fun x y => has_of_hasK (hasK_quiesceEvs s x (k := .closer) (by decide) (by decide)) y
  have pre : ∀ {x : SP}, s.sp = x → x.rank < 5 → calledPrefix s = [] := fun hx hr => calledPrefix_nil (hx ▸ hr)
  cases h
  all_goals refine ⟨_, rfl, rfl, ?_⟩
  case closerAdd c =>
    have h4 := p.sclosed; rw [c] at h4
    have h5 : s.sp.rank < 5 := Nat.lt_succ_of_lt (by simpa using h4.symm)
    exact .register (List.append_nil _) rfl (calledPrefix_nil h5) (calledPrefix_nil h5) rfl rfl
  case closerNow => exact .imm rfl rfl (has_snoc rfl) rfl rfl rfl
  case stopCloser sp hc => exact .loop _ _ sp hc rfl rfl (has_snoc rfl) rfl
  case quiesce => exact .plain _ rfl (hq _) rfl rfl rfl
  case stopBegin c => exact .plain _ rfl (fun _ => rfl) rfl ((pre (p.idle c) (by decide)).symm ▸ rfl) rfl
  case stopQuiesce sp => exact .plain _ rfl (hq _) rfl ((pre sp (by decide)).symm ▸ rfl) rfl
  case stopDrained sp _ => exact .plain _ rfl (fun _ => rfl) rfl ((pre sp (by decide)).symm ▸ rfl) rfl
  case stopClose sp =>
    refine .plain _ rfl (fun x => ?_) rfl ((pre sp (by decide)).symm ▸ rfl) rfl
    rw [has_append, has_of_hasK (hasK_cancelEvs _ _ _ (by decide))]; rfl
  case stopWaited sp _ => exact .plain _ rfl (fun _ => rfl) rfl ((pre sp (by decide)).symm ▸ rfl) rfl
  case stopStopped k sp hc =>
    refine .plain _ rfl (fun _ => rfl) rfl ?_ rfl
    show s.closers = calledPrefix s
    rw [calledPrefix, sp]
    exact (List.take_of_length_le (List.getElem?_eq_none_iff.mp hc)).symm
  case ret => exact .plain _ rfl (fun _ => rfl) rfl rfl (by simp)
  all_goals exact .plain _ rfl (fun _ => rfl) rfl rfl rfl

/-- the closers the log shows called: of the registered ones those the effective Stop has passed, of the others those
whose AddCloser is past the call -/
structure KInv (s : St) : Prop where
  reg : ∀ c ∈ s.closers, has s.log .closer c = decide (c ∈ calledPrefix s)
  imm : ∀ j t, s.threads[j]? = some t → t.kind = .closer → j ∉ s.closers → has s.log .closer j = (t.pc == .done)

theorem kinv_step {s s' : St} {i : Nat} {t t' : Thread} (ht : s.threads[i]? = some t) (hthr : s'.threads = s.threads.set i t')
    (hk' : t'.kind = t.kind) (cs : CSum s s' i t t') (li : ListsInv s) (ih : KInv s) : KInv s' := by
  obtain ⟨r, m⟩ := ih
  suffices (∀ c ∈ s'.closers, has s'.log .closer c = decide (c ∈ calledPrefix s')) ∧
      (t'.kind = .closer → i ∉ s'.closers → has s'.log .closer i = (t'.pc == .done)) ∧
      ∀ j tj, j ≠ i → s.threads[j]? = some tj → tj.kind = .closer → j ∉ s'.closers → has s'.log .closer j = (tj.pc == .done) from
    ⟨this.1, hthr ▸ forall_set this.2.1 this.2.2⟩
  cases cs with
  | plain es hl hes hcl hpre hpc =>
    have hhas : ∀ x, has s'.log .closer x = has s.log .closer x := fun x => by rw [hl, has_append, hes, Bool.or_false]
    rw [hcl, hpre]
    refine ⟨fun c hc => (hhas c).trans (r c hc), fun hkc hn => ?_, fun j tj _ hj hkj hn => (hhas j).trans (m j tj hj hkj hn)⟩
    rw [← hk', hkc] at hpc
    rw [hhas, beq_iff_eq.mp hpc]; exact m i t ht (hk' ▸ hkc) hn
  | register hl hcl hpre hpre0 hk hpc =>
    rw [hl, hcl, hpre]
    refine ⟨fun c hc => ?_, fun _ hn => absurd (List.mem_append_right _ (List.mem_singleton_self i)) hn,
      fun j tj _ hj hkj hn => m j tj hj hkj fun e => hn (List.mem_append_left _ e)⟩
    rcases List.mem_append.mp hc with hc | hc
    · rw [r c hc, hpre0]
    · cases List.mem_singleton.mp hc
      rw [m i t ht hk (li.fresh i t ht hk (.inl hpc)), hpc]; rfl
  | imm hk hpc hlog hcl hpre hpc' =>
    have hfresh := li.fresh i t ht hk (.inr hpc)
    rw [hcl, hpre]
    refine ⟨fun c hc => ?_, fun _ _ => by rw [hlog, hpc']; simp, fun j tj hne hj hkj hn => ?_⟩
    · rw [hlog, r c hc, beq_false_of_ne fun e : i = c => hfresh (e ▸ hc), Bool.or_false]
    · rw [hlog, beq_false_of_ne (Ne.symm hne), Bool.or_false]; exact m j tj hj hkj hn
  | loop k c hsp hc hsp' hcl hlog hk =>
    rw [hcl]
    refine ⟨fun x hx => ?_, fun hkc => Kind.noConfusion (hk.symm.trans (hk'.symm.trans hkc)), fun j tj _ hj hkj hn => ?_⟩
    · rw [hlog, r x hx]
      simp only [calledPrefix, hsp, hsp', hcl, List.take_add_one, hc]
      by_cases hcx : c = x
      · subst hcx; simp
      · have : (c == x) = false := beq_false_of_ne hcx
        have hxc : ¬ x = c := fun e => hcx e.symm
        simp [this, hxc]
    · rw [hlog, beq_false_of_ne fun e : c = j => hn (e ▸ List.mem_of_getElem? hc), Bool.or_false]; exact m j tj hj hkj hn

theorem kinv_reach {cap : Nat} {s : St} (h : Reach cap s) : KInv s := by
  induction h using Reach.rules with
  | init => constructor <;> simp [init]
  | spawn s k hr ih =>
    obtain ⟨r, m⟩ := ih
    have hhas : ∀ x, has (spawn s k).log .closer x = has s.log .closer x := fun x => by simp [spawn, St.ev]
    refine ⟨fun c hc => (hhas c).trans (r c hc), fun j tj hj hkj hnj => ?_⟩
    rw [hhas]
    rcases getElem?_spawn hj with hj | ⟨rfl, rfl⟩
    · exact m j tj hj hkj hnj
    · exact has_fresh (ids_reach hr) _
  | step s s' i t hr _ ht r ih =>
    obtain ⟨t', hthr, hk, cs⟩ := r.csum (ph_reach hr)
    exact kinv_step ht hthr hk cs (lists_reach hr) ih

/-- once the effective Stop is past `stop.Wait()`, every worker whose RunWorker was seen to return while the
stop channel was open has returned -/
def WorkersInv (s : St) : Prop :=
  5 ≤ s.sp.rank → ∀ p ∈ s.log, p.k = .ret → p.c = 4 → p.s = false → has s.log .wEnd p.id = true

theorem workers_reach {cap : Nat} {s : St} (h : Reach cap s) : WorkersInv s := by
  induction h using Reach.rules with
  | init => intro h5; simp [init] at h5
  | spawn s k _ ih =>
    intro h5 p hp hk hc hs
    simp only [spawn] at hp ⊢
    rcases List.mem_append.mp hp with hp | hp
    · rw [has_append, ih h5 p hp hk hc hs]; rfl
    · cases List.mem_singleton.mp hp; cases hk
  | step s s' i t hr _ _ r ih =>
    obtain ⟨es, hl, hn⟩ := r.news
    intro h5 p hp hk hc hps
    rw [hl] at hp ⊢
    -- with the stop channel closed before the step, no new entry sees it open
    have new : 4 ≤ s.sp.rank → p ∉ es := fun h4 hp => by
      have hsc : s.sClosed = true := by rw [(ph_reach hr).sclosed]; exact decide_eq_true h4
      exact Bool.noConfusion (hps.symm.trans ((hn p hp).2.elim (fun h => h.2.1.trans hsc) fun h => h.2.1.trans (r.mono.sc hsc)))
    by_cases p5 : 5 ≤ s.sp.rank
    · rcases List.mem_append.mp hp with hp | hp
      · rw [has_append, ih p5 p hp hk hc hps]; rfl
      · exact absurd hp (new (Nat.le_of_succ_le p5))
    · obtain ⟨hsp, hwg⟩ := r.gate (Nat.lt_of_not_le p5) h5
      rcases List.mem_append.mp hp with hp | hp
      · -- the wait is passed at count zero: the worker of an old entry has called Done
        obtain ⟨t, ht, htk, ti, hable⟩ := returned (evkind_reach hr) (threads_reach hr) hp hk
        have hkind : t.kind = .worker := code_inj (by rw [htk, hc]; rfl)
        have hnw := (cnt_reach hr).not_inWg hwg ht
        have hwd : wDone t = true := by
          obtain ⟨kind, pc, ret⟩ := t
          cases hkind
          cases pc <;> first | rfl | exact Bool.noConfusion hnw | exact Bool.noConfusion hable
        rw [has_append, ti.we, hwd]; rfl
      · exact absurd hp (new (by rw [hsp]; exact Nat.le_refl 4))

end Shk.Stopper
