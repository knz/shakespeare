import ShkModel.Lemmas.Funcs
import ShkModel.Lemmas.Owner
/-!
# C11 — collected and computed variables hold exactly what the clauses say

1. `collects … first|last|top|bottom N` = `collectSpec`, for every N (N ≥ 1 for `last` and for the splits), every value sequence
   and every split of the sequence; the spec's sort is a sorted permutation, so top/bottom are "the N
   largest, descending / N smallest, ascending".
2. the array functions meet `funcOk`; the scalar functions meet their definitions.
3. one assignment: `computes` holds the latest non-nil value, `collects` appends to the history.
4. nothing but an assignment to the variable changes a computed / collected variable.
5. an assignment is visible to every later member of the same round.
6. the headline: over every round (`collects_round`) and every run (`collects_over_a_run`) a `collects`
   variable holds the specified aggregate of what its expression produced inside the owner's periods.

Numbers are exact rationals (NaN / infinities are outside the model).
-/
namespace Shk.C11
open Shk Shk.FuncSpec Shk.Aud Shk.Sort Shk.Collect Shk.Funcs Shk.AudVals Shk.Owner

/-! ## 1a. the specification's sort really sorts -/

/-- `sortAsc` returns an ascending list … -/
theorem sortAsc_sorted (l : List Rat) : (sortAsc l).Pairwise (· ≤ ·) := Sort.sortAsc_sorted l

/-- … that is a permutation of its input -/
theorem sortAsc_perm (l : List Rat) : (sortAsc l).Perm l := Sort.sortAsc_perm l

/-- `sortDesc` returns a descending permutation of its input -/
theorem sortDesc_sorted (l : List Rat) : (sortDesc l).Pairwise (· ≥ ·) := Sort.sortDesc_sorted l

theorem sortDesc_perm (l : List Rat) : (sortDesc l).Perm l := Sort.sortDesc_perm l

example : [(1 : Rat), 2, 2].Pairwise (· ≤ ·) ∧ [(1 : Rat), 2, 2].Perm [2, 1, 2] := by decide +kernel

/-! ## 1b. the four aggregation modes

`collectRun m n a xs` (Lemmas/Collect) = the successive `collectStep m n` calls on `xs` from the
array `a`; `none` = one call reported an error. -/

/-- `first N`: exactly the first N non-nil values, for every N (N = 0 included) and every sequence -/
theorem collect_first (n : Nat) (xs : List Sc) :
    collectRun .first n [] xs = some (collectSpec .first n xs) :=
  run_from_nil .first n nofun xs nofun

/-- `last N`: exactly the last N non-nil values, for every N ≥ 1 -/
theorem collect_last (n : Nat) (hn : 1 ≤ n) (xs : List Sc) :
    collectRun .last n [] xs = some (collectSpec .last n xs) :=
  run_from_nil .last n (fun _ => hn) xs nofun

/-- without `N ≥ 1` the `last` statement is false (the parser refuses `last 0`) -/
example : collectRun .last 0 [] [.num 1] ≠ some (collectSpec .last 0 [.num 1]) := by decide +kernel

/-- `top N`: the N largest values in descending order (booleans count as 0/1), provided no
value is a string -/
theorem collect_top (n : Nat) (xs : List Sc) (hxs : ∀ x ∈ xs, Sc.isStr x = false) :
    collectRun .top n [] xs = some (collectSpec .top n xs) :=
  run_from_nil .top n nofun xs fun _ => hxs

/-- `bottom N`: the N smallest values in ascending order, provided no value is a string -/
theorem collect_bottom (n : Nat) (xs : List Sc) (hxs : ∀ x ∈ xs, Sc.isStr x = false) :
    collectRun .bottom n [] xs = some (collectSpec .bottom n xs) :=
  run_from_nil .bottom n nofun xs fun _ => hxs

example : ∀ x ∈ [Sc.num 3, .nil, .bool true, .num (-7/2), .bool false], Sc.isStr x = false := by decide +kernel

example : collectRun .top 2 [] [.num 3, .nil, .bool true, .num (-7/2), .num 5] = some [.num 5, .num 3] := by
  decide +kernel

/-- a string makes the `top` / `bottom` call return the error of the code, for every array … -/
theorem collect_top_string_step (n : Nat) (a : List Sc) (s : String) :
    collectStep .top n a (.str s) = none ∧ collectStep .bottom n a (.str s) = none := ⟨rfl, rfl⟩

/-- … hence the guard of `collect_top` / `collect_bottom` is exact: the run succeeds iff no value is a
string -/
theorem collect_top_ok_iff (n : Nat) (xs : List Sc) :
    (collectRun .top n [] xs).isSome = true ↔ ∀ x ∈ xs, Sc.isStr x = false :=
  ⟨fun h => run_accepts (Option.eq_some_of_isSome h) (.inl rfl),
    fun h => by rw [collect_top n xs h]; rfl⟩

theorem collect_bottom_ok_iff (n : Nat) (xs : List Sc) :
    (collectRun .bottom n [] xs).isSome = true ↔ ∀ x ∈ xs, Sc.isStr x = false :=
  ⟨fun h => run_accepts (Option.eq_some_of_isSome h) (.inr rfl),
    fun h => by rw [collect_bottom n xs h]; rfl⟩

/-- `top N` spelled out without reference to any sorting function: the result is a descending list
`K` of `min N (number of values)` numbers that, together with some rest `D`, is a rearrangement of
the numeric values produced, every element of `K` dominating every element of `D`. -/
theorem collect_top_char (n : Nat) (xs : List Sc) (hxs : ∀ x ∈ xs, Sc.isStr x = false) :
    ∃ K D : List Rat, collectRun .top n [] xs = some (K.map Sc.num) ∧
      K.Pairwise (· ≥ ·) ∧ (K ++ D).Perm (numsOfAll xs) ∧
      K.length = min n (numsOfAll xs).length ∧ ∀ a ∈ K, ∀ b ∈ D, b ≤ a :=
  ⟨_, _, collect_top n xs hxs,
    sorted_take_char Sort.sortDesc_sorted Sort.sortDesc_perm n _⟩

theorem collect_bottom_char (n : Nat) (xs : List Sc) (hxs : ∀ x ∈ xs, Sc.isStr x = false) :
    ∃ K D : List Rat, collectRun .bottom n [] xs = some (K.map Sc.num) ∧
      K.Pairwise (· ≤ ·) ∧ (K ++ D).Perm (numsOfAll xs) ∧
      K.length = min n (numsOfAll xs).length ∧ ∀ a ∈ K, ∀ b ∈ D, a ≤ b :=
  ⟨_, _, collect_bottom n xs hxs,
    sorted_take_char Sort.sortAsc_sorted Sort.sortAsc_perm n _⟩

/-- under the guard the values entering `top` / `bottom` are exactly the numeric views of the non-nil
elements: nothing is lost by `numsOfAll`'s `filterMap` -/
theorem numsOfAll_complete (xs : List Sc) (hxs : ∀ x ∈ xs, Sc.isStr x = false) :
    (nonNil xs).mapM Sc.numOf = some (numsOfAll xs) :=
  numsOf_eq_some_iff.2 ⟨hxs, rfl⟩

/-- every split of the sequence into activation periods: continuing from the value held after `pre`
with the values `xs` of a later period gives the value for `pre ++ xs` -/
theorem collect_split (m : Mode) (n : Nat) (hn : 1 ≤ n) (pre xs : List Sc)
    (hxs : m = .top ∨ m = .bottom → ∀ x ∈ xs, Sc.isStr x = false) :
    collectRun m n (collectSpec m n pre) xs = some (collectSpec m n (pre ++ xs)) :=
  run_spec m n (fun _ => hn) pre xs hxs

/-- and the run itself does not care where the sequence is cut -/
theorem collect_periods (m : Mode) (n : Nat) (a : List Sc) (xs ys : List Sc) :
    collectRun m n a (xs ++ ys) = (collectRun m n a xs).bind fun a' => collectRun m n a' ys :=
  run_append m n a xs ys

/-- invariant: the array never exceeds N elements — for the specified value … -/
theorem collect_length_spec (m : Mode) (n : Nat) (xs : List Sc) : (collectSpec m n xs).length ≤ n := by
  cases m with
  | single => exact Nat.zero_le n
  | first => exact List.length_take_le n _
  | last => simp only [collectSpec, List.length_drop]; omega
  | top | bottom => simp only [collectSpec, List.length_map]; exact List.length_take_le n _

/-- … and for every run from every array within the bound -/
theorem collect_length (m : Mode) (n : Nat) (hn : 1 ≤ n) (a l : List Sc) (xs : List Sc)
    (ha : a.length ≤ n) (h : collectRun m n a xs = some l) : l.length ≤ n := by
  induction xs generalizing a with
  | nil => cases h; exact ha
  | cons x xs ih =>
    rw [collectRun_cons, Option.bind_eq_some_iff] at h
    obtain ⟨a', hs, h⟩ := h
    exact ih a' (step_length m n hn a a' x ha hs) h

example : collectRun .bottom 2 [.num 1] [.num 3, .num 0, .nil] = some [.num 0, .num 1] := by
  decide +kernel

/-! ## 2. the functions -/

/-- every array function of the model meets its specification, on every argument list
(for `sum avg med min max sorted` the specification speaks about string-free arguments only;
`sorted_spec` below states that case in full) -/
theorem callFn_ok (f : String) (args : List Sc) (r : Val) (h : callFn f args = .ok r) :
    funcOk f args r = true := by
  unfold funcOk
  split
  · cases (callFn_count args).symm.trans h; exact beq_self_eq_true _
  · cases (callFn_first args).symm.trans h; exact beq_self_eq_true _
  · cases (callFn_last args).symm.trans h; exact beq_self_eq_true _
  · exact aggFn_meets (callFn_sum args ▸ h) fun n ns e => by subst e; rw [ratSum_eq]; exact beq_self_eq_true _
  · exact aggFn_meets (callFn_avg args ▸ h) fun n ns e => by subst e; rw [ratSum_eq]; exact beq_self_eq_true _
  · exact aggFn_meets (callFn_avg args ▸ callFn_average args ▸ h) fun n ns e => by
      subst e; rw [ratSum_eq]; exact beq_self_eq_true _
  · exact aggFn_meets (callFn_min args ▸ h) fun n ns e => by
      subst e
      simpa only [Bool.and_eq_true, List.contains_iff_mem, List.all_eq_true, decide_eq_true_eq] using foldl_min n ns
  · exact aggFn_meets (callFn_max args ▸ h) fun n ns e => by
      subst e
      simpa only [Bool.and_eq_true, List.contains_iff_mem, List.all_eq_true, decide_eq_true_eq] using foldl_max n ns
  · exact aggFn_meets (callFn_med args ▸ h) fun n ns e => e ▸ isMedian_medOf _ (List.cons_ne_nil _ _)
  · exact aggFn_meets (callFn_med args ▸ callFn_median args ▸ h) fun n ns e =>
      e ▸ isMedian_medOf _ (List.cons_ne_nil _ _)
  · rw [callFn_sorted] at h
    cases args with
    | nil => cases h; rfl
    | cons a t =>
      cases h
      cases hn : numsOf (a :: t) with
      | none => simp only [← numsOf_def, hn]
      | some ns =>
        cases ns with
        | nil =>
          have : nonNil (sortSc (a :: t)) = [] :=
            List.eq_nil_of_length_eq_zero ((nonNil_sortSc _).length_eq.trans (numsOf_length hn).symm)
          simp [← numsOf_def, hn, this]
        | cons n ns =>
          simp only [← numsOf_def, hn, numsOf_sortSc hn, Bool.and_eq_true]
          exact ⟨(isSortedAsc_iff _).2 (Sort.sortAsc_sorted _), (sameElems_iff _ _).2 (Sort.sortAsc_perm _)⟩
  · rfl

/-- the boolean predicates used by `funcOk "sorted"` mean "ascending" and "same multiset" -/
theorem funcOk_sorted_meaning (a b : List Rat) :
    (isSortedAsc a = true ↔ a.Pairwise (· ≤ ·)) ∧ (sameElems a b = true ↔ a.Perm b) :=
  ⟨isSortedAsc_iff a, sameElems_iff a b⟩

/-- `isMedian` is about the unique sorted arrangement: with `s` the ascending permutation of `xs`,
`r` is the middle element (odd length) or the mean of the two middle elements (even length) -/
theorem isMedian_meaning (r : Rat) (xs s : List Rat) (hs : s.Pairwise (· ≤ ·)) (hp : s.Perm xs) :
    isMedian r xs = true ↔
      (s.length % 2 = 1 ∧ s[(s.length - 1) / 2]? = some r) ∨
      (s.length % 2 = 0 ∧ ∃ a b, s[s.length / 2 - 1]? = some a ∧ s[s.length / 2]? = some b ∧
        r = (a + b) / 2) := by
  obtain rfl : s = sortAsc xs :=
    decides_le.unique hs (Sort.sortAsc_sorted xs) (hp.trans (Sort.sortAsc_perm xs).symm)
  exact isMedian_iff r xs

/-- `sorted` in full, on arguments whose non-nil elements are numbers or booleans (`numsOf` succeeds):
the result is an array, a permutation of the arguments, whose numeric view is the ascending
arrangement of the numeric view of the arguments (nils come first and are ignored by the view). -/
theorem sorted_spec (args : List Sc) (ns : List Rat) (hne : args ≠ []) (hn : numsOf args = some ns) :
    ∃ r, callFn "sorted" args = .ok (.arr r) ∧ r.Perm args ∧
      ∃ rs, numsOf r = some rs ∧ rs.Pairwise (· ≤ ·) ∧ rs.Perm ns :=
  ⟨sortSc args, callFn_sorted_of_ne hne, sortSc_perm args, sortAsc ns, numsOf_sortSc hn,
    Sort.sortAsc_sorted ns, Sort.sortAsc_perm ns⟩

example : numsOf [.num 3, .nil, .bool true, .num (1/2)] = some [3, 1, 1/2] := by decide +kernel

/-- the guard of `sorted_spec` says exactly: no string among the arguments -/
theorem numsOf_guard (args : List Sc) :
    (∃ ns, numsOf args = some ns) ↔ ∀ x ∈ args, Sc.isStr x = false :=
  ⟨fun ⟨_, h⟩ => (numsOf_eq_some_iff.1 h).1, fun h => ⟨_, numsOf_eq_some_iff.2 ⟨h, rfl⟩⟩⟩

/-- empty or all-nil input: `count` is 0, every other array function is nil (`sorted` of a non-empty
all-nil list returns those nils, i.e. an array without non-nil element) -/
theorem callFn_empty (args : List Sc) (h : nonNil args = []) :
    callFn "count" args = .ok (.sc (.num 0)) ∧
    (∀ f ∈ ["first", "last", "sum", "avg", "average", "med", "median", "min", "max"],
      callFn f args = .ok (.sc .nil)) ∧
    (args = [] → callFn "sorted" args = .ok (.sc .nil)) ∧
    (args ≠ [] → ∃ r, callFn "sorted" args = .ok (.arr r) ∧ nonNil r = []) := by
  have hn : numsOf args = some [] := by rw [numsOf_def, h]; rfl
  refine ⟨by rw [callFn_count, h]; rfl, ?_, ?_, ?_⟩
  · simp only [List.forall_mem_cons, callFn_first, callFn_last, callFn_sum, callFn_average, callFn_avg,
      callFn_median, callFn_med, callFn_min, callFn_max, aggFn_nil hn, h, List.head?_nil, List.getLast?_nil,
      Option.getD_none, true_and]
    nofun
  · rintro rfl; rw [callFn_sorted]; rfl
  · exact fun hne => ⟨sortSc args, callFn_sorted_of_ne hne, (h ▸ nonNil_sortSc args).eq_nil⟩

example : nonNil [Sc.nil, .nil] = [] := by decide +kernel

/-- explicit values, for reference: over the numeric view `ns ≠ []` of the non-nil arguments -/
theorem callFn_values (args : List Sc) (n : Rat) (ns : List Rat) (hn : numsOf args = some (n :: ns)) :
    callFn "count" args = .ok (.sc (.num ((n :: ns).length : Nat))) ∧
    callFn "sum" args = .ok (.sc (.num ((n :: ns).foldr (· + ·) 0))) ∧
    callFn "avg" args = .ok (.sc (.num ((n :: ns).foldr (· + ·) 0 / ((n :: ns).length : Nat)))) ∧
    (∃ v, callFn "min" args = .ok (.sc (.num v)) ∧ v ∈ n :: ns ∧ ∀ x ∈ n :: ns, v ≤ x) ∧
    (∃ v, callFn "max" args = .ok (.sc (.num v)) ∧ v ∈ n :: ns ∧ ∀ x ∈ n :: ns, x ≤ v) ∧
    (∃ v, callFn "med" args = .ok (.sc (.num v)) ∧ isMedian v (n :: ns) = true) := by
  refine ⟨?_, ?_, ?_, ⟨_, ?_, foldl_min n ns⟩, ⟨_, ?_, foldl_max n ns⟩, ⟨_, ?_, isMedian_medOf _ (List.cons_ne_nil _ _)⟩⟩
  · rw [callFn_count, numsOf_length hn]
  · rw [callFn_sum, aggFn_cons hn, ratSum_eq]
  · rw [callFn_avg, aggFn_cons hn, ratSum_eq]
  · rw [callFn_min, aggFn_cons hn]
  · rw [callFn_max, aggFn_cons hn]
  · rw [callFn_med, aggFn_cons hn]

/-! ### scalar functions

`abs ceil floor round` of nil (or of nothing) is nil; of a number, the mathematical value:
`abs x` is non-negative and `±x`; `floor x` / `ceil x` are the integers with
`floor x ≤ x < floor x + 1`, `ceil x - 1 < x ≤ ceil x`. -/

theorem scalar_nil (f : String) (hf : f ∈ ["abs", "ceil", "floor", "round"]) :
    callFn f [] = .ok (.sc .nil) ∧ callFn f [.nil] = .ok (.sc .nil) := by
  simp only [List.mem_cons, List.not_mem_nil, or_false] at hf
  rcases hf with rfl | rfl | rfl | rfl <;> simp only [callFn_abs, callFn_ceil, callFn_floor, callFn_round] <;>
    exact scalarFn_nil _

theorem abs_spec (x : Rat) :
    ∃ r, callFn "abs" [.num x] = .ok (.sc (.num r)) ∧ 0 ≤ r ∧ (r = x ∨ r = -x) ∧ (0 ≤ x → r = x) := by
  refine ⟨if 0 ≤ x then x else -x, by rw [callFn_abs]; rfl, ?_, ?_, ?_⟩
  · split
    · assumption
    · rename_i h
      have := Rat.not_le.1 h
      simpa using Rat.neg_le_neg (Rat.le_of_lt this)
  · split <;> simp
  · intro h; simp [h]

theorem floor_spec (x : Rat) :
    ∃ k : Int, callFn "floor" [.num x] = .ok (.sc (.num k)) ∧ (k : Rat) ≤ x ∧ x < ((k + 1 : Int) : Rat) :=
  ⟨x.floor, by rw [callFn_floor]; rfl, Rat.floor_le x, Rat.lt_floor_add_one x⟩

theorem ceil_spec (x : Rat) :
    ∃ k : Int, callFn "ceil" [.num x] = .ok (.sc (.num k)) ∧ x ≤ (k : Rat) ∧ (k : Rat) < x + 1 :=
  ⟨x.ceil, by rw [callFn_ceil]; rfl, Rat.le_ceil, Rat.ceil_lt⟩

/-- `round` is the nearest integer, halves away from zero -/
theorem round_spec (x : Rat) :
    ∃ k : Int, callFn "round" [.num x] = .ok (.sc (.num k)) ∧
      (0 ≤ x → x - 1/2 < (k : Rat) ∧ (k : Rat) ≤ x + 1/2) ∧
      (x < 0 → x - 1/2 ≤ (k : Rat) ∧ (k : Rat) < x + 1/2) := by
  rw [callFn_round]
  by_cases h : 0 ≤ x
  · refine ⟨(x + 1/2).floor, by simp only [scalarFn, roundHalfAway, if_pos h], fun _ => ?_,
      fun h' => absurd h (Rat.not_le.2 h')⟩
    have h2 := Rat.lt_floor_add_one (x + 1/2)
    rw [Rat.intCast_add] at h2
    -- `h2` with 1 taken from both sides
    exact ⟨by grind, Rat.floor_le _⟩
  · refine ⟨-((-x) + 1/2).floor, by simp only [scalarFn, roundHalfAway, if_neg h, Rat.intCast_neg],
      fun h' => absurd h' h, fun _ => ?_⟩
    have h1 := Rat.floor_le (-x + 1/2)
    have h2 := Rat.lt_floor_add_one (-x + 1/2)
    rw [Rat.intCast_add] at h2
    rw [Rat.intCast_neg]
    -- `h1` negated; `h2` negated, with 1 taken from both sides
    grind

/-! ## 3. one assignment: `computes`, `collects` -/

/-- `computes`: a non-nil result `v` is what the variable holds afterwards, the variable is
marked activated, and no other variable changes; a nil result, or unsatisfied dependencies, leave
the whole state (hence the previous value) untouched. -/
theorem computes_latest (c : Cfg) (ts : Rat) (s : St) (a : Assign) (hm : a.mode = .single)
    (hab : s.abort = none) :
    (∀ v, hasDeps s a.expr = true → eval s.vals a.expr = .ok v → v.isNil = false →
        (assignOne c ts s a).vals ⟨"", a.target⟩ = v ∧
        (assignOne c ts s a).activated ⟨"", a.target⟩ = true ∧
        (assignOne c ts s a).abort = none) ∧
    (∀ v, hasDeps s a.expr = true → eval s.vals a.expr = .ok v → v.isNil = true →
        assignOne c ts s a = s) ∧
    (hasDeps s a.expr = false → assignOne c ts s a = s) ∧
    (∀ w, w ≠ ⟨"", a.target⟩ → (assignOne c ts s a).vals w = s.vals w) := by
  refine ⟨?_, ?_, ?_, ?_⟩
  · intro v hd he hv
    rw [assignOne_single c ts s a v hab hd he hm, setVar_vals _ _ _ _ _ _ _ hv,
      setVar_activated _ _ _ _ _ _ _ hv, setVar_abort]
    simp [hab]
  · intro v hd he hv
    rw [assignOne_single c ts s a v hab hd he hm, setVar_nil _ _ _ _ _ _ _ hv]
  · intro hd; unfold assignOne; simp [hab, hd]
  · intro w hw
    exact (assignOne_ext (· = (⟨"", a.target⟩ : VarName)) c ts s a rfl).vals w hw

/-- over any sequence of results `vs` (with their time stamps) written to a variable `x`, the
variable ends up holding the latest non-nil one, or its old value if there is none -/
theorem computes_holds_latest (c : Cfg) (x : VarName) (s : St) (vs : List (Rat × Val)) :
    (vs.foldl (fun st p => setVar c st p.1 (valTyp p.2) x p.2 true) s).vals x =
      (((vs.map (·.2)).reverse.find? fun v => !v.isNil).getD (s.vals x)) := by
  induction vs generalizing s with
  | nil => rfl
  | cons p vs ih =>
    rw [List.foldl_cons, ih]
    simp only [List.map_cons, List.reverse_cons, List.find?_append]
    cases hf : List.find? (fun v => !v.isNil) (List.map (·.2) vs).reverse with
    | some w => simp
    | none =>
      simp only [Option.getD_none, Option.none_or, List.find?_cons, List.find?_nil]
      cases hv : p.2.isNil with
      | true => simp [setVar_nil _ _ _ _ _ _ _ hv]
      | false => simp [setVar_vals _ _ _ _ _ _ _ hv]

/-- a state and a clause that satisfy the hypotheses of `computes_latest` / `visible_same_round`:
`x computes t + 1` at a moment where `t = 2` is known -/
def exS : St := { activated := fun _ => true, vals := fun _ => .sc (.num 2) }
def exA : Assign := ⟨"x", .bin .add (.var ⟨"", "t"⟩) (.lit (.num 1)), .single, 1⟩

example : exS.abort = none ∧ hasDeps exS exA.expr = true ∧
    eval exS.vals exA.expr = .ok (.sc (.num 3)) ∧ (Val.sc (.num 3)).isNil = false ∧
    exA.mode = .single := by decide +kernel

/-! ### the `collects` assignment keeps "holds the specified value of the history" -/

/-- if a `collects` variable holds the specified value for the history `xs` of its expression and
the expression now yields the scalar `x` (not a string for top/bottom), then after the assignment
it holds the specified value for `xs ++ [x]` — the induction step over any run of the audition,
whatever happens in between (section 4) and however the history is cut into periods. -/
theorem collects_step (c : Cfg) (ts : Rat) (s : St) (a : Assign) (xs : List Sc) (x : Sc)
    (hm : a.mode ≠ .single) (hn : 1 ≤ a.n) (hab : s.abort = none) (hd : hasDeps s a.expr = true)
    (he : eval s.vals a.expr = .ok (.sc x))
    (hx : a.mode = .top ∨ a.mode = .bottom → Sc.isStr x = false)
    (hinv : curArray (s.vals ⟨"", a.target⟩) = collectSpec a.mode a.n xs) :
    (assignOne c ts s a).vals ⟨"", a.target⟩ = .arr (collectSpec a.mode a.n (xs ++ [x])) ∧
    (assignOne c ts s a).activated ⟨"", a.target⟩ = true ∧
    (assignOne c ts s a).abort = none := by
  rw [assignOne_collect c ts s a x hab hd he hm, hinv, step_spec a.mode a.n (fun _ => hn) xs x hx]
  exact ⟨by rw [setVar_vals _ _ _ _ _ _ _ rfl, if_pos rfl],
    by rw [setVar_activated _ _ _ _ _ _ _ rfl, if_pos rfl], (setVar_abort ..).trans hab⟩

theorem curArray_arr (l : List Sc) : curArray (.arr l) = l := rfl

/-- a string reaching `top` / `bottom` is the code's evaluation error -/
theorem collects_string (c : Cfg) (ts : Rat) (s : St) (a : Assign) (str : String)
    (hm : a.mode = .top ∨ a.mode = .bottom) (hab : s.abort = none) (hd : hasDeps s a.expr = true)
    (he : eval s.vals a.expr = .ok (.sc (.str str))) :
    (assignOne c ts s a).abort = some .evalError ∧ (assignOne c ts s a).vals = s.vals := by
  have hstep : collectStep a.mode a.n (curArray (s.vals ⟨"", a.target⟩)) (.str str) = none := by
    rcases hm with h | h <;> rw [h] <;> rfl
  rw [assignOne_collect c ts s a _ hab hd he (by rcases hm with h | h <;> rw [h] <;> nofun), hstep]
  exact ⟨rfl, rfl⟩

/-! ## 4. persistence -/

/-- the head of a round assigns only `t`, `mood`, `moodt` and the round's samples: every other
variable — in particular every computed / collected variable — keeps its value -/
theorem beginRound_keeps (c : Cfg) (ts : Rat) (samples : List Sample) (s : St) (w : VarName)
    (ht : w ≠ ⟨"", "t"⟩) (hm : w ≠ ⟨"", "mood"⟩) (hmt : w ≠ ⟨"", "moodt"⟩)
    (hs : ∀ x ∈ samples, x.v ≠ w) : (beginRound c ts samples s).vals w = s.vals w :=
  beginRound_vals c ts samples s w ht hm hmt hs

/-- a member's visit (period start, inside, closing round, or no period at all) changes a variable
only through that member's own assignments to it -/
theorem visit_keeps (c : Cfg) (final : Bool) (ts : Rat) (s : St) (m : Member) (w : VarName)
    (hw : ∀ a ∈ m.assigns, w ≠ ⟨"", a.target⟩) : (visit c final ts s m).vals w = s.vals w :=
  (visit_ext (fun v => ∃ a ∈ m.assigns, v = ⟨"", a.target⟩) c final ts s m
    (fun a ha => ⟨a, ha, rfl⟩)).vals w (fun ⟨a, ha, e⟩ => hw a ha e)

/-- a whole round: a variable that is neither `t`/`mood`/`moodt`, nor sampled in this round, nor
the target of a clause of a member, keeps its value (a target: `visit_keeps`, `persists_while_dormant`). -/
theorem persist_across_periods (c : Cfg) (final : Bool) (ts : Rat) (samples : List Sample) (s : St)
    (w : VarName) (ht : w ≠ ⟨"", "t"⟩) (hm : w ≠ ⟨"", "mood"⟩) (hmt : w ≠ ⟨"", "moodt"⟩)
    (hs : ∀ x ∈ samples, x.v ≠ w) (hw : ∀ m ∈ c.members, ∀ a ∈ m.assigns, w ≠ ⟨"", a.target⟩) :
    (round c final ts samples s).vals w = s.vals w := by
  rw [round_eq]; split
  · rfl
  · exact (roundFold_vals c final ts _ c.members w hw).trans (beginRound_vals c ts samples s w ht hm hmt hs)

/-- **keeps its value across activation periods** — for a computed / collected variable itself (the statement
`persist_across_periods` above is about variables nobody assigns).  Let `w` be assigned by the member `m0` only
(`pre` and `post` are the other members, before and after it in the audience).  In a round in which `m0` is dormant when
its turn comes — it is not visited, or it is outside a period and its `audits` condition is false, cannot be evaluated yet,
or the round is the final one — `w` has the same value after the round as before it: whatever the other members do, whatever
samples arrive.  Together with `collects_step` (what a visit inside a period does to it) this is the whole life of the
variable. -/
theorem persists_while_dormant (c : Cfg) (final : Bool) (ts : Rat) (samples : List Sample) (s : St)
    (pre post : List Member) (m0 : Member) (w : VarName)
    (hc : c.members = pre ++ m0 :: post)
    (ht : w ≠ ⟨"", "t"⟩) (hm : w ≠ ⟨"", "mood"⟩) (hmt : w ≠ ⟨"", "moodt"⟩) (hs : ∀ x ∈ samples, x.v ≠ w)
    (hpre : ∀ m ∈ pre, ∀ a ∈ m.assigns, w ≠ ⟨"", a.target⟩)
    (hpost : ∀ m ∈ post, ∀ a ∈ m.assigns, w ≠ ⟨"", a.target⟩)
    (hdorm : let s1 := pre.foldl (roundStep c final ts) (beginRound c ts samples s)
             visited final s1 m0 = false ∨
             ((s1.aud m0.name).auditing = false ∧
               (condOf final s1 m0 = some (.ok false) ∨ condOf final s1 m0 = none))) :
    (round c final ts samples s).vals w = s.vals w := by
  rcases round_owner c final ts samples s pre post m0 w hc ht hm hmt hs hpre hpost with h | ⟨h1, h2⟩
  · exact h
  · rw [h2, roundStep_dormant c final ts _ m0 hdorm, h1]

/-- the condition half of the dormancy premise holds of every member in the final round -/
example (s : St) (m : Member) : condOf true s m = some (.ok false) := by simp [condOf]

example : (⟨"", "x"⟩ : VarName) ≠ ⟨"", "t"⟩ ∧ (⟨"", "x"⟩ : VarName) ≠ ⟨"", "mood"⟩ ∧
    (⟨"", "x"⟩ : VarName) ≠ ⟨"", "moodt"⟩ ∧
    ∀ x ∈ [(⟨.scalar, ⟨"a", "sig"⟩, .sc (.num 1)⟩ : Sample)], x.v ≠ ⟨"", "x"⟩ := by decide +kernel

/-! ## 5. visibility inside the round -/

/-- right after a successful assignment (non-nil result `v`) of `x` by a `computes` clause:
`x` is activated and holds `v`; any expression whose only dependency is `x` has its dependencies
satisfied; reading `x` yields `v`; and every auditor that mentions `x` is woken, i.e. will be
visited when the `round` fold reaches it. -/
theorem visible_same_round (c : Cfg) (final : Bool) (ts : Rat) (s : St) (a : Assign) (v : Val)
    (hm : a.mode = .single) (hab : s.abort = none) (hd : hasDeps s a.expr = true)
    (he : eval s.vals a.expr = .ok v) (hv : v.isNil = false) :
    (∀ e : Expr, (∀ d ∈ e.deps, d = ⟨"", a.target⟩) → hasDeps (assignOne c ts s a) e = true) ∧
    eval (assignOne c ts s a).vals (.var ⟨"", a.target⟩) = .ok v ∧
    (∀ w ∈ c.members, (⟨"", a.target⟩ : VarName) ∈ w.mentions → w.isAuditor = true →
      visited final (assignOne c ts s a) w = true) := by
  rw [assignOne_single c ts s a v hab hd he hm]
  refine ⟨?_, ?_, ?_⟩
  · intro e hdeps
    simp only [hasDeps, List.all_eq_true]
    intro d hdm
    rw [hdeps d hdm, setVar_activated _ _ _ _ _ _ _ hv]; simp
  · simp [eval, setVar_vals _ _ _ _ _ _ _ hv]
  · intro w hw hmen haud
    simp [visited, haud, setVar_woke c s ts _ _ v true hv w hw hmen haud]

/-- and it stays so for the rest of the round: after the remaining clauses of the same member and
after any later members `ms` have had their turn — none of them re-assigning `x` — `x` still holds
`v`, is still activated (so `hasDeps` holds for expressions depending on `x` only), and the auditors
mentioning `x` are still woken.  `s1` is any state in which `x` holds `v`, e.g. the one of
`visible_same_round`. -/
theorem visible_later_members (c : Cfg) (final : Bool) (ts : Rat) (s1 : St) (x : VarName) (v : Val)
    (rest : List Assign) (m0 : Member) (ms : List Member)
    (hrest : ∀ b ∈ rest, x ≠ ⟨"", b.target⟩) (hms : ∀ m ∈ ms, ∀ b ∈ m.assigns, x ≠ ⟨"", b.target⟩)
    (hval : s1.vals x = v) (hact : s1.activated x = true) :
    let s2 := ms.foldl (roundStep c final ts) (checkExpect (assignAll c ts s1 rest) ts m0)
    s2.vals x = v ∧ eval s2.vals (.var x) = .ok v ∧
    (∀ e : Expr, (∀ d ∈ e.deps, d = x) → hasDeps s2 e = true) ∧
    (∀ w : Member, (s1.aud w.name).activated = true → (s2.aud w.name).activated = true) := by
  intro s2
  have hext : Ext (fun w => x ≠ w) s1 s2 :=
    ((assignAll_ext _ c ts s1 rest (fun b hb => hrest b hb)).trans
      (checkExpect_ext _ _ ts m0)).trans
      (roundFold_ext _ c final ts _ ms (fun m hm b hb => hms m hm b hb))
  have hv2 : s2.vals x = v := by rw [hext.vals x (fun h => h rfl)]; exact hval
  refine ⟨hv2, by simp [eval, hv2], ?_, fun w hw => hext.woke _ hw⟩
  intro e hdeps
  simp only [hasDeps, List.all_eq_true]
  intro d hdm
  rw [hdeps d hdm]; exact hext.act x hact

theorem round_is_fold (c : Cfg) (final : Bool) (ts : Rat) (samples : List Sample) (s : St)
    (h : s.abort = none) :
    round c final ts samples s = c.members.foldl (roundStep c final ts) (beginRound c ts samples s) := by
  rw [round_eq]; simp [h]

/-- a chain of dependent clauses: `y computes x + 1` in a later member sees the `x` computed earlier
in the same round.  Concrete instance of the hypotheses (member `m2` mentions `x`). -/
def exM2 : Member :=
  { name := "m2", cond := .lit (.bool true),
    assigns := [⟨"y", .bin .add (.var ⟨"", "x"⟩) (.lit (.num 1)), .single, 1⟩],
    expect := none, watches := [] }

example : (⟨"", exA.target⟩ : VarName) ∈ exM2.mentions ∧ exM2.isAuditor = true ∧
    (∀ d ∈ (Expr.bin .add (.var ⟨"", "x"⟩) (.lit (.num 1))).deps, d = ⟨"", exA.target⟩) := by decide +kernel

/-! ## 6. A `collects` variable over whole rounds

The variable grows by the values its own expression yields in the visits of its owner — in a period, its opening and its
closing round included — and by nothing else; `collects_step` was the single assignment, `persists_while_dormant` the rounds
in which the owner sleeps; here is every round, and with it every run. -/

/-- the variable of the clause `a` holds the specified aggregate of a history that extends `xs` by at most one value, and
that value is what `a.expr` evaluated to in a state in which the owner was inside a period -/
def Grows (a : Assign) (owner : String) (xs : List Sc) (s' : St) : Prop :=
  ∃ ys : List Sc, ys.length ≤ 1 ∧
    curArray (s'.vals ⟨"", a.target⟩) = collectSpec a.mode a.n (xs ++ ys) ∧
    ∀ y ∈ ys, ∃ s1 : St, eval s1.vals a.expr = .ok (.sc y) ∧ (s1.aud owner).auditing = true

/-- **Every round**: a `collects` variable that holds the specified aggregate of a history `xs` holds, after any round
of the audition — whatever the samples, whoever else is in the audience, whether its owner is visited, starts, continues
or closes a period, or sleeps — the specified aggregate of `xs` extended by at most one value, and that value is what
its expression evaluated to while the owner was inside a period.  (`a` is the only clause that assigns the variable.) -/
theorem collects_round (c : Cfg) (final : Bool) (ts : Rat) (samples : List Sample) (s : St)
    (preM postM : List Member) (m0 : Member) (a : Assign) (pre post : List Assign) (xs : List Sc)
    (hc : c.members = preM ++ m0 :: postM) (has : m0.assigns = pre ++ a :: post)
    (hm : a.mode ≠ .single) (hn : 1 ≤ a.n)
    (ht : (⟨"", a.target⟩ : VarName) ≠ ⟨"", "t"⟩) (hmood : (⟨"", a.target⟩ : VarName) ≠ ⟨"", "mood"⟩)
    (hmt : (⟨"", a.target⟩ : VarName) ≠ ⟨"", "moodt"⟩) (hs : ∀ x ∈ samples, x.v ≠ ⟨"", a.target⟩)
    (hpre : ∀ b ∈ pre, (⟨"", b.target⟩ : VarName) ≠ ⟨"", a.target⟩)
    (hpost : ∀ b ∈ post, (⟨"", b.target⟩ : VarName) ≠ ⟨"", a.target⟩)
    (hpreM : ∀ m ∈ preM, ∀ b ∈ m.assigns, (⟨"", a.target⟩ : VarName) ≠ ⟨"", b.target⟩)
    (hpostM : ∀ m ∈ postM, ∀ b ∈ m.assigns, (⟨"", a.target⟩ : VarName) ≠ ⟨"", b.target⟩)
    (hinv : curArray (s.vals ⟨"", a.target⟩) = collectSpec a.mode a.n xs) :
    Grows a m0.name xs (round c final ts samples s) := by
  have same : ∀ {v : Val}, v = s.vals ⟨"", a.target⟩ → curArray v = collectSpec a.mode a.n (xs ++ []) := by
    rintro _ rfl; rw [List.append_nil]; exact hinv
  rcases round_writer c final ts samples s preM postM m0 a pre post hc has ht hmood hmt hs hpre hpost
    hpreM hpostM with h | ⟨s1, h1, haud, h2⟩
  · exact ⟨[], Nat.zero_le 1, same h, fun _ h => (List.not_mem_nil h).elim⟩
  · rcases assignOne_collect_vals c ts s1 a hm with h3 | ⟨y, l, hy, hl, h3⟩
    · exact ⟨[], Nat.zero_le 1, same (h2.trans (h3.trans h1)), fun _ h => (List.not_mem_nil h).elim⟩
    · rw [h1, hinv, step_spec a.mode a.n (fun _ => hn) xs y (step_accepts hl)] at hl
      cases hl
      exact ⟨[y], Nat.le_refl 1, by rw [h2, h3]; rfl, fun z hz => List.mem_singleton.1 hz ▸ ⟨s1, hy, haud⟩⟩

def Produced (a : Assign) (owner : String) (xs : List Sc) : Prop :=
  ∀ y ∈ xs, ∃ s1 : St, eval s1.vals a.expr = .ok (.sc y) ∧ (s1.aud owner).auditing = true

def HoldsHistory (a : Assign) (owner : String) (s : St) : Prop :=
  ∃ xs, curArray (s.vals ⟨"", a.target⟩) = collectSpec a.mode a.n xs ∧ Produced a owner xs

/-- **Every run**: after any sequence of mood changes and samples, and the final round, a `first | last | top | bottom N`
variable holds exactly the specified aggregate — the first N, the last N, the N largest in descending order, the N smallest
in ascending order, of the non-nil ones — of a sequence of values each of which its expression produced while its owner
was inside an activation period (opening and closing rounds included: the closing round is the known finding of C02). -/
theorem collects_over_a_run (c : Cfg) (evs : List Ev) (tEnd : Rat)
    (preM postM : List Member) (m0 : Member) (a : Assign) (pre post : List Assign)
    (hc : c.members = preM ++ m0 :: postM) (has : m0.assigns = pre ++ a :: post)
    (hm : a.mode ≠ .single) (hn : 1 ≤ a.n)
    (ht : (⟨"", a.target⟩ : VarName) ≠ ⟨"", "t"⟩) (hmood : (⟨"", a.target⟩ : VarName) ≠ ⟨"", "mood"⟩)
    (hmt : (⟨"", a.target⟩ : VarName) ≠ ⟨"", "moodt"⟩)
    (hsig : ∀ e ∈ evs, ∀ t xs, e = Ev.sig t xs → ∀ x ∈ xs, x.v ≠ ⟨"", a.target⟩)
    (hpre : ∀ b ∈ pre, (⟨"", b.target⟩ : VarName) ≠ ⟨"", a.target⟩)
    (hpost : ∀ b ∈ post, (⟨"", b.target⟩ : VarName) ≠ ⟨"", a.target⟩)
    (hpreM : ∀ m ∈ preM, ∀ b ∈ m.assigns, (⟨"", a.target⟩ : VarName) ≠ ⟨"", b.target⟩)
    (hpostM : ∀ m ∈ postM, ∀ b ∈ m.assigns, (⟨"", a.target⟩ : VarName) ≠ ⟨"", b.target⟩) :
    HoldsHistory a m0.name (run c evs tEnd) := by
  refine run_vals_invariant
    (fun vals => ∃ xs, curArray (vals ⟨"", a.target⟩) = collectSpec a.mode a.n xs ∧ Produced a m0.name xs)
    c evs tEnd ⟨[], (collectSpec_nil a.mode a.n).symm, fun _ h => (List.not_mem_nil h).elim⟩ ?_
  rintro final ts samples s hsam ⟨xs, hx, hp⟩
  have hs : ∀ x ∈ samples, x.v ≠ ⟨"", a.target⟩ := by
    rcases hsam with rfl | hsam
    · exact fun _ h => (List.not_mem_nil h).elim
    · exact hsig _ hsam ts samples rfl
  obtain ⟨ys, _, h1, h2⟩ := collects_round c final ts samples s preM postM m0 a pre post xs hc has hm hn
    ht hmood hmt hs hpre hpost hpreM hpostM hx
  exact ⟨xs ++ ys, h1, fun y hy => (List.mem_append.1 hy).elim (hp y) (h2 y)⟩

/-- the premises of `collects_over_a_run` are met by an ordinary audience: `m collects bin as first 3 [a s]` between a
member that computes something else and one that only reads `bin` -/
def exCol : Assign := ⟨"bin", .var ⟨"a", "s"⟩, .first, 3⟩
def exOwner : Member :=
  { name := "m", cond := .lit (.bool true), assigns := [⟨"pre", .var ⟨"", "t"⟩, .single, 1⟩, exCol], expect := none, watches := [] }
def exAudience : Cfg := ⟨[exM2, exOwner, { exM2 with name := "m3" }]⟩

example : HoldsHistory exCol "m"
    (run exAudience [.sig 1 [⟨.scalar, ⟨"a", "s"⟩, .sc (.num 4)⟩], .mood 2 "red", .sig 3 [⟨.scalar, ⟨"a", "s"⟩, .sc (.num 5)⟩]] 9) :=
  collects_over_a_run exAudience _ 9 [exM2] [{ exM2 with name := "m3" }] exOwner exCol
    [⟨"pre", .var ⟨"", "t"⟩, .single, 1⟩] [] rfl rfl (by decide +kernel) (by decide +kernel) (by decide +kernel) (by decide +kernel) (by decide +kernel)
    (by
      intro e he t xs hx x hxs
      simp only [List.mem_cons, List.not_mem_nil, or_false] at he
      rcases he with rfl | rfl | rfl
      · injection hx with _ h2; subst h2
        simp only [List.mem_singleton] at hxs; subst hxs; decide
      · cases hx
      · injection hx with _ h2; subst h2
        simp only [List.mem_singleton] at hxs; subst hxs; decide)
    (by decide +kernel) (by decide +kernel) (by decide +kernel) (by decide +kernel)

end Shk.C11
