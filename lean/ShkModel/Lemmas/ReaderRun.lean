import ShkModel.Lemmas.Reader
/-! The loop of `parseCfg` around `readLine`: what a finished run guarantees (`run_spec`, `load_spec`), and that it
finishes once the fuel exceeds the potential `phi` of `Lemmas/Reader.lean` (`run_finishes`). -/
namespace Shk.Reader
open Shk.Preproc

variable {σ : Type}

/-- what a load guarantees of its outcome: no panic; a diagnostic is a true one, and one of kind `.clause` points at the
first line of a clause the parser rejected -/
def OutSpec (P : Parser σ) (fs : FS) : Outcome σ → Prop
  | .panic => False
  | .error d => DiagOK fs d ∧
      (d.kind = .clause →
        ∃ s' body tail bad raw rest k eof, fs d.file = .file body tail bad ∧
          clauseAt body tail bad d.line = .line raw rest k eof ∧
          P.classify s' (trimSpace raw) = .reject ∧ LineStart body d.line)
  | _ => True

theorem run_spec (P : Parser σ) (fs : FS) (ipath : List Name) :
    ∀ (n : Nat) (st : List Frame) (s : σ), Inv fs st → OutSpec P fs (run P fs ipath n st s) := by
  intro n
  induction n with
  | zero => intro st s _; exact True.intro
  | succ n ih =>
    intro st s hinv
    have hsp : StepSpec fs ipath (P.params s) st (readLineG false fs ipath (P.params s) st) :=
      readLine_spec ipath (P.params s) st hinv
    show OutSpec P fs (runG false P fs ipath (n + 1) st s)
    unfold runG
    revert hsp
    cases readLineG false fs ipath (P.params s) st with
    | stop => exact fun _ => trivial
    | panic => exact id
    | err d => exact fun h => ⟨h.1, fun hk => absurd hk h.2⟩
    | skip st' => exact fun h => ih st' s h.1
    | clause text line r below =>
      rintro ⟨hinv', _, ⟨d, hw, hd⟩, body, tail, bad, raw, rest, k, eof, hfs, hcl, rfl, hst⟩
      dsimp only
      cases hc : P.classify s (trimSpace raw) with
      | accept s' => exact ih _ s' hinv'
      | abort => trivial
      | reject =>
        rw [hw]
        obtain ⟨hfile, hline, _⟩ := wrapErr_some hw
        exact ⟨hd, fun _ => ⟨s, body, tail, bad, raw, rest, k, eof, hfile ▸ hfs, hline ▸ hcl, hc, hline ▸ hst⟩⟩

theorem run_finishes (P : Parser σ) (fs : FS) (ipath : List Name) (L : Nat) (hs : Small L fs) :
    ∀ (n : Nat) (st : List Frame) (s : σ), Inv fs st → phi L st < n →
      run P fs ipath n st s ≠ .running := by
  intro n
  induction n with
  | zero => intro st s _ h; cases h
  | succ n ih =>
    intro st s hinv hphi
    have hsp : StepSpec fs ipath (P.params s) st (readLineG false fs ipath (P.params s) st) :=
      readLine_spec ipath (P.params s) st hinv
    show runG false P fs ipath (n + 1) st s ≠ .running
    unfold runG
    revert hsp
    cases readLineG false fs ipath (P.params s) st with
    | stop | panic | err d => exact fun _ => nofun
    | skip st' => exact fun h => ih st' s h.1 (Nat.lt_of_lt_of_le (h.2.1 L hs) (Nat.le_of_lt_succ hphi))
    | clause text line r below =>
      intro h
      dsimp only
      cases P.classify s text with
      | accept s' => exact ih _ s' h.1 (Nat.lt_of_lt_of_le (h.2.1 L hs) (Nat.le_of_lt_succ hphi))
      | abort => nofun
      | reject => dsimp only; split <;> nofun

theorem load_inv {fs : FS} {ipath : List Name} {main cand : Name} {b : List Bytes} {t : Bytes}
    {bad : Bool} (h : search false fs main ipath = .hit cand b t bad) :
    Inv fs [newFrame cand b t bad] := by
  obtain ⟨_, _, _, _, _, _, hf⟩ := search_hit _ h
  exact ⟨by simp, new_ok hf, by simp⟩

theorem load_spec (P : Parser σ) (fs : FS) (ipath : List Name) (main : Name) (n : Nat) (s : σ) :
    OutSpec P fs (load P fs ipath main n s) := by
  show OutSpec P fs (loadG false P fs ipath main n s)
  unfold loadG
  cases h : search false fs main ipath with
  | hit cand b t bad => exact run_spec P fs ipath n _ s (load_inv h)
  | notFound | openErr c | isDir c => exact True.intro

end Shk.Reader
